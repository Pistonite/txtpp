import Txtpp.Model.Cli
import Txtpp.Model.Coord
import Txtpp.Model.CoordScan
import Txtpp.Model.CoordSim
import Txtpp.Model.Fs
import Txtpp.Model.Lines
import Txtpp.Model.Machine
import Txtpp.Model.Panic
import Txtpp.Model.PathName
import Txtpp.Model.Pp
import Txtpp.Model.ProjSafe
import Txtpp.Model.Project
import Txtpp.Model.ProjectTrace
import Txtpp.Model.Safe
import Txtpp.Model.Shell
import Txtpp.Model.Tag
import Txtpp.Model.Text
import Txtpp.Lemmas.AddLineIff
import Txtpp.Lemmas.Agree
import Txtpp.Lemmas.ByteEndings
import Txtpp.Lemmas.ByteIdentity
import Txtpp.Lemmas.ByteLines
import Txtpp.Lemmas.ByteSplit
import Txtpp.Lemmas.CleanProject
import Txtpp.Lemmas.CleanRestore
import Txtpp.Lemmas.CliFacts
import Txtpp.Lemmas.ConcreteCoord
import Txtpp.Lemmas.ConcreteTrace
import Txtpp.Lemmas.CoordDm
import Txtpp.Lemmas.CoordExec
import Txtpp.Lemmas.CoordInv
import Txtpp.Lemmas.CoordScanInv
import Txtpp.Lemmas.CoordTop
import Txtpp.Lemmas.CrFs
import Txtpp.Lemmas.CrOk
import Txtpp.Lemmas.Cycle
import Txtpp.Lemmas.EntryGuard
import Txtpp.Lemmas.ExecDirective
import Txtpp.Lemmas.FreeWorld
import Txtpp.Lemmas.FsFacts
import Txtpp.Lemmas.Hermetic
import Txtpp.Lemmas.InjectSpec
import Txtpp.Lemmas.Interning
import Txtpp.Lemmas.LineEnding
import Txtpp.Lemmas.LoopStep
import Txtpp.Lemmas.MachineFacts
import Txtpp.Lemmas.MachineSpec
import Txtpp.Lemmas.NeededRel
import Txtpp.Lemmas.OutputConf
import Txtpp.Lemmas.PassInv
import Txtpp.Lemmas.PassRel
import Txtpp.Lemmas.PassRelF
import Txtpp.Lemmas.PathNameFacts
import Txtpp.Lemmas.PmInv
import Txtpp.Lemmas.ProjectRel
import Txtpp.Lemmas.RunPassFacts
import Txtpp.Lemmas.RunPassRel
import Txtpp.Lemmas.SafeCond
import Txtpp.Lemmas.ScanSpec
import Txtpp.Lemmas.ShellFacts
import Txtpp.Lemmas.Span
import Txtpp.Lemmas.TagInject
import Txtpp.Lemmas.Term
import Txtpp.Lemmas.TextIff
import Txtpp.Lemmas.TouchScope
import Txtpp.Lemmas.VerifyRel
import Txtpp.Lemmas.Worker
import Txtpp.Lemmas.WriteEscape
import Txtpp.Props.C01
import Txtpp.Props.C02
import Txtpp.Props.C03
import Txtpp.Props.C04
import Txtpp.Props.C05
import Txtpp.Props.C06
import Txtpp.Props.C07
import Txtpp.Props.C08
import Txtpp.Props.C09
import Txtpp.Props.C10
import Txtpp.Props.C11
import Txtpp.Props.C12
import Txtpp.Props.C13
import Txtpp.Props.C14
import Txtpp.Props.C15
import Txtpp.Props.C16
import Txtpp.Props.C17
import Txtpp.Props.C18
