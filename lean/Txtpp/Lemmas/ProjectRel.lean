import Txtpp.Lemmas.PassRelF
import Txtpp.Lemmas.NeededRel
/-! Whole-project composition of the pass-level relational theorems: `runLoop_rel` (lockstep of two runs for `Agree`),
    the congruences of `projStart`, `project_runs_agree` (C08), `needed_project_vs_build_project` (C09). -/
namespace Txt

/-- **project-level composition** (C08, C09): `runLoop_lockstep` without escape, for the relation `Agree` -/
theorem runLoop_rel (cfg cfg2 : Cfg) (tr : FS → List Path → Path → Bool → Outcome → Option (List Path))
    (hpass : ∀ (a b : FS) (S S' : List Path) (src : Path) (first : Bool), Agree S a b →
      tr a S src first (runPass cfg a src first).1 = some S' →
      (runPass cfg a src first).1 = (runPass cfg2 b src first).1 ∧
      Agree S' (runPass cfg a src first).2 (runPass cfg2 b src first).2) :
    ∀ (fuel : Nat) (s1 s2 : PSt) (S Sfin : List Path), s1.names = s2.names → s1.st = s2.st → Agree S s1.fs s2.fs →
      loopStale cfg tr fuel s1 S = some Sfin →
      (runLoop cfg fuel s1).1 = (runLoop cfg2 fuel s2).1 ∧ Agree Sfin (runLoop cfg fuel s1).2 (runLoop cfg2 fuel s2).2 :=
  fun fuel s1 s2 S Sfin hn hst hag h =>
    (runLoop_lockstep Agree False cfg cfg2 tr (fun a b S S' src first hag h => Or.inr (hpass a b S S' src first hag h))
      fuel s1 s2 S Sfin hn hst hag h).resolve_left (·.1)

/-- `runLoop_lockstep` for `Agree` where the second run may stop with an error at any pass (as a verify run does at a
    mismatch; C06 `verify_ok_means_nothing_to_rebuild` calls `runLoop_lockstep` with a relation of its own) -/
theorem runLoop_rel_until (cfg cfg2 : Cfg) (tr : FS → List Path → Path → Bool → Outcome → Option (List Path))
    (hpass : ∀ (a b : FS) (S S' : List Path) (src : Path) (first : Bool), Agree S a b →
      tr a S src first (runPass cfg a src first).1 = some S' →
      (runPass cfg2 b src first).1 = .err ∨
      ((runPass cfg a src first).1 = (runPass cfg2 b src first).1 ∧
       Agree S' (runPass cfg a src first).2 (runPass cfg2 b src first).2)) :
    ∀ (fuel : Nat) (s1 s2 : PSt) (S Sfin : List Path), s1.names = s2.names → s1.st = s2.st → Agree S s1.fs s2.fs →
      loopStale cfg tr fuel s1 S = some Sfin →
      (runLoop cfg2 fuel s2).1 = .err ∨
      ((runLoop cfg fuel s1).1 = (runLoop cfg2 fuel s2).1 ∧ Agree Sfin (runLoop cfg fuel s1).2 (runLoop cfg2 fuel s2).2) :=
  fun fuel s1 s2 S Sfin hn hst hag h =>
    (runLoop_lockstep Agree True cfg cfg2 tr (fun a b S S' src first hag h => (hpass a b S S' src first hag h).imp_left (⟨trivial, ·⟩))
      fuel s1 s2 S Sfin hn hst hag h).imp_left (·.2)

theorem resolveInputs_congr (cfg cfg' : Cfg) (h : cfg'.baseAbs = cfg.baseAbs) (fs : FS) :
    ∀ inputs, resolveInputs cfg' fs inputs = resolveInputs cfg fs inputs := by
  intro inputs
  induction inputs with
  | nil => rfl
  | cons inp rest ih =>
    simp only [resolveInputs, ih, argComps_congr cfg cfg' h, depOf_congr cfg cfg' h]

theorem projStart_cfg_congr (cfg cfg' : Cfg) (h1 : cfg'.baseAbs = cfg.baseAbs) (h2 : cfg'.recursive = cfg.recursive) (fs : FS)
    (inputs : List Str) : projStart cfg' fs inputs = projStart cfg fs inputs := by
  unfold projStart
  rw [resolveInputs_congr cfg cfg' h1, h2]

theorem projStart_congr (cfg : Cfg) (a b : FS) (inputs : List Str) (hd : a.dirs = b.dirs)
    (hres : resolveInputs cfg a inputs = resolveInputs cfg b inputs)
    (hscan : ∀ n ds seen, scanAll a cfg.recursive n ds seen = scanAll b cfg.recursive n ds seen) :
    projStart cfg b inputs = (projStart cfg a inputs).map fun s => { s with fs := b } := by
  unfold projStart
  rw [← hres]
  cases resolveInputs cfg a inputs with
  | none => rfl
  | some fd => simp only [Option.map_some, ← hscan, ← hd]

/-- **whole project, same kind of run on both sides (C08)**: two trees that agree outside `S` and
    resolve the inputs alike give the same verdict, and afterwards agree outside the stale set that
    `projStale` computes along the run (`C08.whole_project_same_result` and `whole_project_build_twice_eq_once` take `Sfin = []` as an executable hypothesis). -/
theorem project_runs_agree (cfg : Cfg) (hm : cfg.mode = .build ∨ cfg.mode = .inMemory) (a b : FS) (inputs : List Str)
    (S Sfin : List Path) (hag : Agree S a b)
    (hres : resolveInputs cfg a inputs = resolveInputs cfg b inputs)
    (hscan : ∀ n ds seen, scanAll a cfg.recursive n ds seen = scanAll b cfg.recursive n ds seen)
    (hst : projStale cfg (trSame cfg) a inputs S = some Sfin)
    (hfa : (runProject cfg a inputs).1 ≠ .outOfFuel) (hfb : (runProject cfg b inputs).1 ≠ .outOfFuel) :
    (runProject cfg a inputs).1 = (runProject cfg b inputs).1 ∧
    Agree Sfin (runProject cfg a inputs).2 (runProject cfg b inputs).2 := by
  rw [runProject_eq cfg a, runProject_eq cfg b, projStart_congr cfg a b inputs hag.1 hres hscan] at *
  unfold projStale at hst
  cases hs : projStart cfg a inputs with
  | none => rw [hs] at hst; cases hst; exact ⟨rfl, hag⟩
  | some s =>
    rw [hs] at hst hfa hfb
    obtain rfl := projStart_fs hs
    have hrel := runLoop_rel cfg cfg (trSame cfg) (fun a b S S' src first hag h => trSame_sound cfg hm a b S S' src first hag h)
      (projFuel s.fs) s { s with fs := b } S Sfin rfl rfl hag hst
    -- the fuel depends on the tree; neither run uses it up, so the run from `b` may be given the fuel of `a`
    have hfuel : runLoop cfg (projFuel b) { s with fs := b } = runLoop cfg (projFuel s.fs) { s with fs := b } := by
      rcases Nat.le_total (projFuel s.fs) (projFuel b) with hle | hle
      · exact runLoop_fuel_le cfg hle (by rw [← hrel.1]; exact hfa)
      · exact (runLoop_fuel_le cfg hle hfb).symm
    simp only [Option.map_some]
    rw [hfuel]
    exact hrel

/-- **whole project, build vs only-if-needed from the same tree (C09)** -/
theorem needed_project_vs_build_project (cfg : Cfg) (hb : cfg.mode = .build) (fs : FS) (inputs : List Str) (Sfin : List Path)
    (hst : projStale cfg (trNeeded cfg) fs inputs [] = some Sfin) :
    (runProject cfg fs inputs).1 = (runProject cfg.toNeeded fs inputs).1 ∧
    Agree Sfin (runProject cfg fs inputs).2 (runProject cfg.toNeeded fs inputs).2 := by
  rw [runProject_eq cfg fs, runProject_eq cfg.toNeeded fs, projStart_cfg_congr cfg cfg.toNeeded rfl rfl]
  unfold projStale at hst
  cases hs : projStart cfg fs inputs with
  | none =>
    rw [hs] at hst
    cases hst
    exact ⟨rfl, Agree.refl _ _⟩
  | some s =>
    rw [hs] at hst
    simp only at hst ⊢
    exact runLoop_rel cfg cfg.toNeeded (trNeeded cfg) (fun a b S S' src first hag h => trNeeded_sound cfg hb a b S S' src first hag h)
      (projFuel fs) s s [] Sfin rfl rfl (Agree.refl _ _) hst

end Txt
