import Txtpp.Lemmas.MachineFacts
import Txtpp.Lemmas.ExecDirective
/-! Invariants of the world along a pass: whatever property of the world is preserved by the
    operations a pass may perform (run a command, write a temp file, remove a temp file) holds
    after the pass (`ppPass_inv_at`; C06, C07, C10 are stated through `OpsPreserve`). Also `ppPass` itself:
    it is the line loop followed by the end-of-file checks `passResult`, and what a result other than
    `err` says about the line loop (`ppPass_ok_inv`, `ppPass_hasDeps_inv`: names in `_ok_inv` / `_hasDeps_inv` are
    inversions, every other `_inv` an invariant). At the end, the trailing-newline option as one equation on pass results. -/
namespace Txt
open Refine (Sem machine parse Block)
variable {W : Type}

/-- `I` is kept by the world operations a pass in `mode` can perform: commands and temp writes outside clean
    mode, temp removals in clean mode -/
structure OpsPreserve (Wd : World W) (mode : Mode) (I : W → Prop) : Prop where
  run : mode ≠ .clean → ∀ w c, I w → I (Wd.run w c).2
  writeTemp : mode ≠ .clean → ∀ w t c w', I w → Wd.writeTemp w t c = some w' → I w'
  removeTemp : mode = .clean → ∀ w t w', I w → Wd.removeTemp w t = some w' → I w'

/-- like `OpsPreserve`, but the temp operations only have to preserve `I` for the target of the
    directive being executed -/
structure OpsPreserveAt (Wd : World W) (mode : Mode) (I : W → Prop) (d : Directive) : Prop where
  run : mode ≠ .clean → ∀ w c, I w → I (Wd.run w c).2
  writeTemp : mode ≠ .clean → d.ty = .temp → ∀ w t body c w', d.args = t :: body → isTxtppPath t = false → I w →
    Wd.writeTemp w t c = some w' → I w'
  removeTemp : mode = .clean → d.ty = .temp → ∀ w t body w', d.args = t :: body → isTxtppPath t = false → I w →
    Wd.removeTemp w t = some w' → I w'

theorem OpsPreserve.at {Wd : World W} {mode : Mode} {I : W → Prop} (hp : OpsPreserve Wd mode I) (d : Directive) :
    OpsPreserveAt Wd mode I d :=
  ⟨hp.run, fun hm _ w t _ c w' _ _ => hp.writeTemp hm w t c w', fun hm _ w t _ w' _ _ => hp.removeTemp hm w t w'⟩

theorem execDirective_inv_at (Wd : World W) (mode : Mode) (I : W → Prop) (le : Str)
    (s s' : PpState W) (d : Directive) (hp : OpsPreserveAt Wd mode I d) (o : Option Str) (hI : I s.w)
    (h : execDirective Wd mode le s d = some (s', o)) : I s'.w := by
  rcases execDirective_some Wd mode le s s' d o h with ⟨rfl, _⟩ | ⟨_, _, _, _, _, rfl, _⟩ | ⟨w', hty, _, ht, rfl, _⟩ |
    ⟨_, _, _, _, _, rfl, _⟩ | ⟨raw, w', hm, _, hr, rfl, _⟩
  · exact hI
  · exact hI
  · obtain ⟨t, body, hargs, hnt, ht⟩ := execTemp_some Wd le s.w w' d.args _ ht
    by_cases hm : mode = .clean
    · exact hp.removeTemp hm hty _ _ _ _ hargs hnt hI (by simpa [hm] using ht)
    · exact hp.writeTemp hm hty _ _ _ _ _ hargs hnt hI (by simpa [hm] using ht)
  · exact hI
  · rw [routeOutput_w]
    rcases hr with ⟨_, hr⟩ | ⟨_, _, rfl⟩ | ⟨_, _, rfl⟩
    · have := hp.run hm s.w (joinWith [' '] d.args) hI; rwa [hr] at this
    · exact hI
    · exact hI

theorem execDirective_inv {Wd : World W} {mode : Mode} {I : W → Prop} (hp : OpsPreserve Wd mode I) (le : Str)
    (s s' : PpState W) (d : Directive) (o : Option Str) (hI : I s.w)
    (h : execDirective Wd mode le s d = some (s', o)) : I s'.w :=
  execDirective_inv_at Wd mode I le s s' d (hp.at d) o hI h

/-- `I` holds of the world a pass result carries -/
def PassPost (I : W → Prop) : PassResult W → Prop
  | .ok _ w' => I w'
  | .hasDeps _ w' => I w'
  | .err => True

abbrev startState (first : Bool) (w : W) : PpState W := ⟨TagState.empty, if first then .firstExec else .exec, w⟩

/-- the end-of-file checks of `ppPass`, applied to the result of the line loop -/
def passResult (mode : Mode) : Option (PpState W × Str) → PassResult W
  | none => .err
  | some (s, out) =>
    match s.pm with
    | .collect deps => .hasDeps deps s.w
    | _ => if s.tags.hasTags && mode != .clean then .err else .ok out s.w

theorem ppPass_eq (Wd : World W) (mode : Mode) (le : Str) (first trailing : Bool) (w : W) (lines : List Str) :
    ppPass Wd mode le first trailing w lines true =
      passResult mode (machine (txtppSem Wd mode le) trailing (startState first w) lines) := rfl

theorem ppPass_unreadable (Wd : World W) (mode : Mode) (le : Str) (first trailing : Bool) (w : W) (lines : List Str) :
    ppPass Wd mode le first trailing w lines false = .err := rfl

theorem ppPass_readOk {Wd : World W} {mode : Mode} {le : Str} {first trailing : Bool} {w : W} {lines : List Str}
    {readOk : Bool} (h : ppPass Wd mode le first trailing w lines readOk ≠ .err) : readOk = true := by
  cases readOk with
  | false => exact absurd rfl h
  | true => rfl

theorem ppPass_ok_inv {Wd : World W} {mode : Mode} {le : Str} {first trailing : Bool} {w w' : W} {lines : List Str}
    {readOk : Bool} {out : Str} (h : ppPass Wd mode le first trailing w lines readOk = .ok out w') :
    ∃ s, machine (txtppSem Wd mode le) trailing (startState first w) lines = some (s, out) ∧ s.pm.isExecute = true ∧
      (s.tags.hasTags && mode != .clean) = false ∧ s.w = w' := by
  cases readOk with
  | false => cases h
  | true =>
    rw [ppPass_eq] at h
    rcases hr : machine (txtppSem Wd mode le) trailing (startState first w) lines with _ | ⟨s, o⟩ <;> rw [hr] at h
    · cases h
    · dsimp only [passResult] at h
      cases hpm : s.pm with
      | collect ds => rw [hpm] at h; cases h
      | _ =>
        rw [hpm] at h
        dsimp only at h
        split at h
        · cases h
        · rename_i hb; cases h; exact ⟨s, rfl, by rw [hpm]; rfl, by simpa using hb, rfl⟩

theorem ppPass_hasDeps_inv {Wd : World W} {mode : Mode} {le : Str} {first trailing : Bool} {w w' : W} {lines : List Str}
    {readOk : Bool} {deps : List Str} (h : ppPass Wd mode le first trailing w lines readOk = .hasDeps deps w') :
    ∃ s out, machine (txtppSem Wd mode le) trailing (startState first w) lines = some (s, out) ∧ s.pm = .collect deps ∧
      s.w = w' := by
  cases readOk with
  | false => cases h
  | true =>
    rw [ppPass_eq] at h
    rcases hr : machine (txtppSem Wd mode le) trailing (startState first w) lines with _ | ⟨s, o⟩ <;> rw [hr] at h
    · cases h
    · dsimp only [passResult] at h
      cases hpm : s.pm with
      | collect ds => rw [hpm] at h; cases h; exact ⟨s, o, rfl, hpm, rfl⟩
      | _ => rw [hpm] at h; dsimp only at h; split at h <;> cases h

theorem ppPass_post (Wd : World W) (mode : Mode) (I : W → Prop) (le : Str) (first trailing : Bool) (w : W)
    (lines : List Str) (readOk : Bool)
    (h : ∀ s out, machine (txtppSem Wd mode le) trailing (startState first w) lines = some (s, out) → I s.w) :
    PassPost I (ppPass Wd mode le first trailing w lines readOk) := by
  cases hr : ppPass Wd mode le first trailing w lines readOk with
  | err => trivial
  | ok out w' => obtain ⟨s, hm, _, _, rfl⟩ := ppPass_ok_inv hr; exact h s out hm
  | hasDeps deps w' => obtain ⟨s, out, hm, _, rfl⟩ := ppPass_hasDeps_inv hr; exact h s out hm

theorem ppPass_inv_at (Wd : World W) (mode : Mode) (I : W → Prop) (le : Str) (first trailing : Bool) (w : W)
    (lines : List Str) (readOk : Bool)
    (hp : ∀ bs d e, parse (txtppSem Wd mode le) none lines = some bs → Block.dir d e ∈ bs → OpsPreserveAt Wd mode I d)
    (hI : I w) : PassPost I (ppPass Wd mode le first trailing w lines readOk) :=
  ppPass_post Wd mode I le first trailing w lines readOk fun s out hm =>
    Refine.machine_inv (txtppSem Wd mode le) (fun s => I s.w) trailing _ lines s out
      (fun bs d e hb hmem s s' o hj he => execDirective_inv_at Wd mode I le s s' d (hp bs d e hb hmem) o hj he)
      (fun s l hj => by rw [text_w]; exact hj) hI hm

theorem ppPass_world_inv (Wd : World W) (mode : Mode) (I : W → Prop) (hp : OpsPreserve Wd mode I)
    (le : Str) (first trailing : Bool) (w : W) (lines : List Str) (readOk : Bool) (hI : I w) :
    PassPost I (ppPass Wd mode le first trailing w lines readOk) :=
  ppPass_inv_at Wd mode I le first trailing w lines readOk (fun _ d _ _ _ => hp.at d) hI

/-! ### the trailing-newline option as one equation on pass results (C13) -/

def PassResult.mapOut (f : Str → Str) : PassResult W → PassResult W
  | .ok out w => .ok (f out) w
  | r => r

/-- the end-of-file checks look at the output text only to hand it on -/
theorem passResult_append (mode : Mode) (s : PpState W) (out e : Str) :
    passResult mode (some (s, out ++ e)) = (passResult mode (some (s, out))).mapOut (· ++ e) := by
  dsimp only [passResult]
  split
  · rfl
  · split <;> rfl

theorem ppPass_trailing (Wd : World W) (mode : Mode) (le : Str) (first : Bool) (w : W) (lines : List Str) (readOk : Bool) :
    ∃ e, (e = [] ∨ e = le) ∧ ppPass Wd mode le first true w lines readOk =
      (ppPass Wd mode le first false w lines readOk).mapOut (· ++ e) := by
  cases readOk with
  | false => exact ⟨[], Or.inl rfl, rfl⟩
  | true =>
    rw [ppPass_eq, ppPass_eq]
    rcases Refine.trailing_only_final (txtppSem Wd mode le) (startState first w) lines with ⟨h1, h0⟩ | ⟨s, out, h0, h1 | h1⟩
    · exact ⟨[], Or.inl rfl, by rw [h0, h1]; rfl⟩
    · exact ⟨[], Or.inl rfl, by rw [h0, h1, ← passResult_append, List.append_nil]⟩
    · exact ⟨le, Or.inr rfl, by rw [h0, h1, ← passResult_append]; rfl⟩

end Txt
