import Txtpp.Model.ProjSafe
/-! C11: `scan_dir` / the directory walk of `Txtpp::run`, against its specification: the files found
    are exactly the txtpp-named files whose directory is an input directory or (recursive mode) a
    descendant of one (`scanAll_sound`), and the fuel given by `runProject` always suffices (`scanAll_complete`).
    Last, the walk depends on the tree only through `dirs` and `srcPaths` (`scanDir_files`, `scanAll_congr`), which is
    what lets C08 compare whole-project runs from two trees. -/

namespace Txt

/-- `q` is a sub-directory of `d` as `scan_dir` sees it -/
def IsChild (fs : FS) (d q : Path) : Prop := q ∈ fs.dirs ∧ q ≠ [] ∧ q.dropLast = d

/-- directories reached from the roots (only the roots themselves unless recursive) -/
inductive Desc (fs : FS) (recursive : Bool) (roots : List Path) : Path → Prop
  | root {d} : d ∈ roots → Desc fs recursive roots d
  | child {d q} : recursive = true → Desc fs recursive roots d → IsChild fs d q → Desc fs recursive roots q

/-- `p` is a txtpp source directly inside directory `d` -/
def IsSrcIn (fs : FS) (d p : Path) : Prop :=
  (∃ b, (p, b) ∈ fs.files) ∧ p ≠ [] ∧ p.dropLast = d ∧ ∃ n, p.getLast? = some n ∧ PathName.isTxtppFile n = true

theorem mem_scanDir_files (fs : FS) (r : Bool) (d p : Path) : p ∈ (scanDir fs r d).1 ↔ IsSrcIn fs d p := by
  simp only [scanDir, List.mem_map, List.mem_filter, IsSrcIn]
  constructor
  · rintro ⟨⟨p', b⟩, ⟨hm, hc⟩, rfl⟩
    simp only [Bool.and_eq_true, beq_iff_eq, bne_iff_ne, ne_eq] at hc
    obtain ⟨⟨h1, h2⟩, h3⟩ := hc
    refine ⟨⟨b, hm⟩, h2, h1, ?_⟩
    cases hl : p'.getLast? with
    | none => simp [hl] at h3
    | some n => simp only [hl] at h3; exact ⟨n, rfl, h3⟩
  · rintro ⟨⟨b, hm⟩, h2, h1, n, hn, ht⟩
    refine ⟨(p, b), ⟨hm, ?_⟩, rfl⟩
    simp only [Bool.and_eq_true, beq_iff_eq, bne_iff_ne, ne_eq, hn]
    exact ⟨⟨h1, h2⟩, ht⟩

theorem mem_scanDir_subs (fs : FS) (r : Bool) (d q : Path) : q ∈ (scanDir fs r d).2 ↔ r = true ∧ IsChild fs d q := by
  simp only [scanDir, IsChild]
  cases r with
  | false => simp
  | true =>
    simp only [if_true, List.mem_filter, Bool.and_eq_true, bne_iff_ne, ne_eq, beq_iff_eq, true_and]

theorem scanAll_sound (fs : FS) (r : Bool) (roots : List Path) (fuel : Nat) (ds seen : List Path)
    (hds : ∀ d ∈ ds, Desc fs r roots d) :
      ∀ p ∈ scanAll fs r fuel ds seen, ∃ d, Desc fs r roots d ∧ IsSrcIn fs d p := by
  fun_induction scanAll fs r fuel ds seen with
  | case1 => exact fun _ h => nomatch h
  | case2 => exact fun _ h => nomatch h
  | case3 n d rest seen hs ih => exact ih fun x hx => hds x (List.mem_cons_of_mem _ hx)
  | case4 n d rest seen hs files subs hsd ih =>
    intro p hp
    have hd := hds d List.mem_cons_self
    rcases List.mem_append.1 hp with h1 | h2
    · exact ⟨d, hd, (mem_scanDir_files fs r d p).1 (by rw [hsd]; exact h1)⟩
    · refine ih (fun x hx => ?_) p h2
      rcases List.mem_append.1 hx with hx | hx
      · exact hds x (List.mem_cons_of_mem _ hx)
      · obtain ⟨hr, hc⟩ := (mem_scanDir_subs fs r d x).1 (by rw [hsd]; exact hx)
        exact Desc.child hr hd hc

/-- sub-directories not yet handed to the queue: those whose parent has not been scanned -/
def unscannedP (seen : List Path) (q : Path) : Bool := q != [] && !(seen.contains q.dropLast)
def childP (d : Path) (q : Path) : Bool := q != [] && q.dropLast == d

/-- scanning `d` hands exactly its children to the queue -/
theorem count_split (l : List Path) (seen : List Path) (d : Path) (hd : d ∉ seen) :
    (l.filter (unscannedP (d :: seen))).length + (l.filter (childP d)).length = (l.filter (unscannedP seen)).length := by
  -- split what `seen` leaves unscanned into the children of `d` and the rest
  rw [List.length_eq_countP_add_countP (childP d) (l := l.filter (unscannedP seen)), List.countP_filter, List.countP_filter,
    ← List.countP_eq_length_filter, ← List.countP_eq_length_filter, Nat.add_comm]
  congr 1 <;> apply List.countP_congr <;> intro q _
  all_goals by_cases hq : q.dropLast = d <;> simp [unscannedP, childP, hq, hd]

theorem subs_length (fs : FS) (r : Bool) (d : Path) :
    (scanDir fs r d).2.length ≤ (fs.dirs.filter (childP d)).length := by
  simp only [scanDir]
  cases r with
  | false => simp
  | true => exact Nat.le_refl _

/-- the worklist lemma: with enough fuel the walk ends with a set `V` of visited directories that
    contains the queue and everything seen before, and every directory newly visited has had its
    files emitted and its sub-directories visited -/
theorem scanAll_visits (fs : FS) (r : Bool) (fuel : Nat) (ds seen : List Path)
    (hfuel : ds.length + (fs.dirs.filter (unscannedP seen)).length < fuel) :
      ∃ V : List Path, (∀ x ∈ seen, x ∈ V) ∧ (∀ x ∈ ds, x ∈ V) ∧
        ∀ d ∈ V, d ∉ seen → (∀ p, IsSrcIn fs d p → p ∈ scanAll fs r fuel ds seen) ∧
          (∀ q, r = true → IsChild fs d q → q ∈ V) := by
  fun_induction scanAll fs r fuel ds seen with
  | case1 => exact absurd hfuel (Nat.not_lt_zero _)
  | case2 fuel seen => exact ⟨seen, fun _ h => h, fun _ h => (nomatch h), fun d hd hnd => absurd hd hnd⟩
  | case3 n d rest seen hs ih =>
    obtain ⟨V, h1, h2, h3⟩ := ih (by rw [List.length_cons] at hfuel; omega)
    exact ⟨V, h1, fun x hx => (List.mem_cons.1 hx).elim (fun e => h1 x (e ▸ by simpa using hs)) (h2 x), h3⟩
  | case4 n d rest seen hs files subs hsd ih =>
    have hd : d ∉ seen := by simpa using hs
    have hcount := count_split fs.dirs seen d hd
    have hsub : subs.length ≤ (fs.dirs.filter (childP d)).length := by simpa [hsd] using subs_length fs r d
    obtain ⟨V, h1, h2, h3⟩ := ih (by
      simp only [List.length_cons, List.length_append] at hfuel ⊢
      omega)
    refine ⟨V, fun x hx => h1 x (List.mem_cons_of_mem _ hx), fun x hx => ?_, fun x hx hnx => ?_⟩
    · exact (List.mem_cons.1 hx).elim (fun e => e ▸ h1 d List.mem_cons_self) fun hx => h2 x (List.mem_append_left _ hx)
    · by_cases hxd : x = d
      · subst hxd
        exact ⟨fun p hp => List.mem_append_left _ (by simpa [hsd] using (mem_scanDir_files fs r x p).2 hp),
          fun q hr hc => h2 q (List.mem_append_right _ (by simpa [hsd] using (mem_scanDir_subs fs r x q).2 ⟨hr, hc⟩))⟩
      · obtain ⟨g1, g2⟩ := h3 x hx (by simp [hxd, hnx])
        exact ⟨fun p hp => List.mem_append_right _ (g1 p hp), g2⟩

theorem scanAll_complete (fs : FS) (r : Bool) (roots : List Path) (fuel : Nat) (hf : roots.length + fs.dirs.length < fuel)
    (d p : Path) (hd : Desc fs r roots d) (hp : IsSrcIn fs d p) : p ∈ scanAll fs r fuel roots [] := by
  have hu := List.length_filter_le (unscannedP []) fs.dirs
  obtain ⟨V, _, h2, h3⟩ := scanAll_visits fs r fuel roots [] (by omega)
  have hV : ∀ x, Desc fs r roots x → x ∈ V := by
    intro x hx
    induction hx with
    | root hm => exact h2 _ hm
    | child hr _ hc ih => exact (h3 _ ih (by simp)).2 _ hr hc
  exact (h3 d (hV d hd) (by simp)).1 p hp

theorem scanDir_files (fs : FS) (r : Bool) (d : Path) :
    (scanDir fs r d).1 = (srcPaths fs).filter (fun p => p.dropLast == d && p != []) := by
  unfold scanDir srcPaths
  simp only
  rw [List.filter_map, List.filter_map, List.filter_filter]
  congr 1

theorem scanDir_congr (a b : FS) (r : Bool) (d : Path) (hd : a.dirs = b.dirs) (hs : srcPaths a = srcPaths b) :
    scanDir a r d = scanDir b r d := by
  apply Prod.ext
  · rw [scanDir_files, scanDir_files, hs]
  · unfold scanDir; simp only [hd]

theorem scanAll_congr (a b : FS) (r : Bool) (hd : a.dirs = b.dirs) (hs : srcPaths a = srcPaths b) :
    ∀ n ds seen, scanAll a r n ds seen = scanAll b r n ds seen := by
  intro n
  induction n with
  | zero => intro ds seen; rfl
  | succ n ih =>
    intro ds seen
    cases ds with
    | nil => rfl
    | cons d ds =>
      simp only [scanAll, scanDir_congr a b r d hd hs, ih]

end Txt
