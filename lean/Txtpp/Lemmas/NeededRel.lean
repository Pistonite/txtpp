import Txtpp.Lemmas.RunPassRel
/-! C09: an only-if-needed pass and a normal build pass over the same source compute the same verdict
    and leave the same bytes at every path (the two runs differ at the output path while they run,
    because build truncates it when it opens it). -/
namespace Txt
open Refine (Block)

/-- **C09, one pass**: a normal build pass from `a` and an only-if-needed pass from `b` (file systems
    agreeing outside `S`) over the same source: same verdict; after an `ok` pass they agree outside what is
    still stale of `o :: S`, which holds neither the output nor any temp target written. -/
theorem needed_pass_rel (cfg : Cfg) (hb : cfg.mode = .build) (a b : FS) (S : List Path) (src : Path) (first : Bool)
    (hag : Agree S a b) (hsrc : src ∉ S) (hnd : ∀ o, outputPath src = some o → a.isDir o = false)
    (hsafe : ∀ content o bs, a.file? src = some content → outputPath src = some o →
      srcBlocks .build (decodeLines (byteLines content.toList)).1 = some bs →
      Safe cfg a src.dropLast bs (o :: S) ∧ ProbesOK cfg a src.dropLast (o :: S) bs) :
    (runPass cfg a src first).1 = (runPass cfg.toNeeded b src first).1 ∧
    ((runPass cfg a src first).1 = .ok → ∀ content o bs, a.file? src = some content → outputPath src = some o →
      srcBlocks .build (decodeLines (byteLines content.toList)).1 = some bs →
      Agree ((staleAfter cfg a src.dropLast bs (o :: S)).filter (· != o))
        (runPass cfg a src first).2 (runPass cfg.toNeeded b src first).2) := by
  rcases runPass_pair cfg cfg.toNeeded src first hag hsrc with ⟨ea, eb⟩ | ⟨content, o, hfile, hout, ea, eb⟩ <;> rw [ea, eb]
  · exact ⟨rfl, fun h => by cases h⟩
  have hd := hnd o hout
  -- the build truncates the output when it opens it, the only-if-needed build leaves it
  rw [runPassAt_eq, runPassAt_eq, sinkStart_build_eq hb hd, show sinkStart cfg.toNeeded.mode b o = some b from rfl]
  dsimp only
  cases hbs : srcBlocks .build (decodeLines (byteLines content.toList)).1 with
  | none =>
    rw [srcPass_parse_none cfg src first content _ (hb ▸ hbs),
      srcPass_parse_none cfg.toNeeded src first content b ((srcBlocks_needed _).trans hbs)]
    exact ⟨rfl, fun h => by cases h⟩
  | some bs =>
    obtain ⟨hsf, hpr⟩ := hsafe content o bs hfile hout hbs
    have hag1 : Agree (o :: S) (a.write o ByteArray.empty) b := hag.write_left o
    obtain ⟨r1, _, r3⟩ := closePass_rel cfg.mode .inMemory (Or.inl hb) (Or.inr rfl) o
      (srcPass_core false cfg .inMemory (ne_clean (Or.inl hb)) (by decide) (fs0 := a) src first content
        (hb ▸ hbs) hag1 rfl (fun h => nomatch h) ((safeTo_false_iff ..).2 ⟨hsf, rfl⟩) hpr)
      hag1 rfl (Or.inr hd)
    exact ⟨r1, fun hok => src_unique hfile hout hbs (r3 hok)⟩

/-- **only-if-needed equals build (one source, same starting tree)**: same verdict, and after an `ok`
    pass every path holds the same bytes -/
theorem needed_pass_eq_build_pass (cfg : Cfg) (hb : cfg.mode = .build) (a : FS) (src : Path) (first : Bool)
    (content : ByteArray) (o : Path) (bs : List (Block Directive))
    (hfile : a.file? src = some content) (hout : outputPath src = some o) (hnd : a.isDir o = false)
    (hbs : srcBlocks .build (decodeLines (byteLines content.toList)).1 = some bs)
    (hsafe : Safe cfg a src.dropLast bs [o]) (hprobes : ProbesOK cfg a src.dropLast [o] bs) :
    (runPass cfg a src first).1 = (runPass cfg.toNeeded a src first).1 ∧
    ((runPass cfg a src first).1 = .ok → ∀ q, (runPass cfg a src first).2.file? q = (runPass cfg.toNeeded a src first).2.file? q) := by
  have h := needed_pass_rel cfg hb a a [] src first (Agree.refl _ a) (by simp)
    (fun o' ho' => by cases hout.symm.trans ho'; exact hnd) (src_unique hfile hout hbs ⟨hsafe, hprobes⟩)
  exact ⟨h.1, fun hok q => (h.2 hok content o bs hfile hout hbs).2 q (not_mem_stale_end (singleton_sub_generated cfg a o bs) q)⟩

/-- where the executable side condition answers `true`: only-if-needed equals build -/
theorem needed_eq_build_where_checked (cfg : Cfg) (hb : cfg.mode = .build) (a : FS) (src : Path) (first : Bool)
    (hs : srcSafeB cfg a src = some true) :
    (runPass cfg a src first).1 = (runPass cfg.toNeeded a src first).1 ∧
    ((runPass cfg a src first).1 = .ok → ∀ q, (runPass cfg a src first).2.file? q = (runPass cfg.toNeeded a src first).2.file? q) := by
  obtain ⟨content, o, bs, hfile, hout, hbs, _, hsafe, hprobes, hnd, _⟩ := srcSafeB_true cfg a src hs
  exact needed_pass_eq_build_pass cfg hb a src first content o bs hfile hout hnd (hb ▸ hbs)
    (hsafe.mono (singleton_sub_generated cfg a o bs)) (hprobes.mono (singleton_sub_generated cfg a o bs))

end Txt
