import Txtpp.Model.Fs
import Txtpp.Lemmas.CrOk
import Txtpp.Lemmas.Span
/-! Text as bytes. The UTF-8 codec of the model (`encodeUtf8`, `decodeUtf8`; `lineBytes`, defined here, is the byte list
    of a text): CR and LF are the single bytes 13 and 10, which occur in no other code word, so "free of CR / LF" and
    "every CR followed by LF" (`crB`, defined here) are the same conditions on a text and on its bytes. Then
    `BufRead::lines` on the bytes of a source: splitting at byte 10, stripping one byte 13 in front of it (`stripCr`),
    decoding each piece. If every byte 13 of the source is followed by byte 10, every decoded line is free of `\r` and
    `\n` (closes the `hlines` hypothesis of C12.output_one_ending). Last, the line ending sniffed from the bytes
    (`sniffLE`) is `\n` or `\r\n`. -/

theorem ByteArray.toList_loop_eq (bs : ByteArray) (i : Nat) (r : List UInt8) :
    ByteArray.toList.loop bs i r = r.reverse ++ bs.data.toList.drop i := by
  fun_induction ByteArray.toList.loop bs i r with
  | case1 i r hlt ih =>
    have hlt' : i < bs.data.toList.length := by rw [Array.length_toList]; exact hlt
    have hg : bs.get! i = bs.data.toList[i] := (getElem!_pos bs.data i hlt).trans (Array.getElem_toList _).symm
    rw [ih, List.drop_eq_getElem_cons hlt', List.reverse_cons, List.append_assoc, hg]; rfl
  | case2 i r hge =>
    rw [List.drop_of_length_le (by rw [Array.length_toList]; exact Nat.le_of_not_lt hge), List.append_nil]

theorem ByteArray.toList_eq (bs : ByteArray) : bs.toList = bs.data.toList :=
  ByteArray.toList_loop_eq bs 0 []

namespace Txt

theorem decodeUtf8_some {b : ByteArray} {s : Str} (h : decodeUtf8 b = some s) : s.utf8Encode = b := by
  obtain ⟨str, hstr, rfl⟩ := Option.map_eq_some_iff.1 h
  rw [String.utf8Encode_toList]
  unfold String.fromUTF8? at hstr
  split at hstr
  · cases hstr; rfl
  · cases hstr

theorem utf8Encode_toList (l : List Char) : l.utf8Encode.data.toList = l.flatMap String.utf8EncodeChar :=
  List.toList_data_toByteArray

theorem encodeUtf8_eq (l : Str) : encodeUtf8 l = l.utf8Encode := by
  simp [encodeUtf8, String.toUTF8]

theorem decode_encode (l : Str) : decodeUtf8 (encodeUtf8 l) = some l := by
  rw [encodeUtf8_eq]
  unfold decodeUtf8 String.fromUTF8?
  have hv : l.utf8Encode.IsValidUTF8 := ByteArray.isValidUTF8_utf8Encode
  simp only [hv, dite_true, Option.map_some, Option.some.injEq]
  have : (String.fromUTF8 l.utf8Encode hv) = String.ofList l := by
    apply String.toByteArray_inj.1
    rw [String.toByteArray_ofList]
    rfl
  rw [this]; simp

/-- an ASCII byte occurs in the UTF-8 code word of a character only as that character itself: every byte of a
    longer code word is `_ ||| m` with `0x80 ≤ m` -/
theorem ascii_of_mem_encodeChar (c : Char) (b : UInt8) (hb : b ∈ String.utf8EncodeChar c) (h : b < 0x80) :
    c.toNat = b.toNat := by
  have hi : ∀ x m : UInt8, 0x80 ≤ m → b = x ||| m → False := fun x m hm e =>
    absurd (UInt8.le_trans hm (e ▸ UInt8.le_iff_toNat_le.2 (by rw [UInt8.toNat_or]; exact Nat.right_le_or)))
      (UInt8.not_le.2 h)
  rcases Char.utf8Size_eq c with h1 | h1 | h1 | h1
  · rw [String.utf8EncodeChar_eq_singleton h1, List.mem_singleton] at hb
    have := UInt32.le_iff_toNat_le.1 (Char.utf8Size_eq_one_iff.1 h1)
    rw [hb, UInt32.toNat_toUInt8, Nat.mod_eq_of_lt (Nat.lt_of_le_of_lt this (by decide))]; rfl
  · rw [String.utf8EncodeChar_eq_cons_cons h1] at hb
    simp only [List.mem_cons, List.not_mem_nil, or_false] at hb
    rcases hb with e | e <;> exact (hi _ _ (by decide) e).elim
  · rw [String.utf8EncodeChar_eq_cons_cons_cons h1] at hb
    simp only [List.mem_cons, List.not_mem_nil, or_false] at hb
    rcases hb with e | e | e <;> exact (hi _ _ (by decide) e).elim
  · rw [String.utf8EncodeChar_eq_cons_cons_cons_cons h1] at hb
    simp only [List.mem_cons, List.not_mem_nil, or_false] at hb
    rcases hb with e | e | e | e <;> exact (hi _ _ (by decide) e).elim

theorem encodeChar_nl (c : Char) (b : UInt8) (hb : b ∈ String.utf8EncodeChar c) :
    (b = 10 → c = '\n') ∧ (b = 13 → c = '\r') :=
  ⟨fun e => Char.toNat_inj.1 (by rw [ascii_of_mem_encodeChar c b hb (by rw [e]; decide), e]; rfl),
   fun e => Char.toNat_inj.1 (by rw [ascii_of_mem_encodeChar c b hb (by rw [e]; decide), e]; rfl)⟩

theorem encodeChar_ne_nil (c : Char) : String.utf8EncodeChar c ≠ [] := fun e => by
  have := String.length_utf8EncodeChar c
  rw [e] at this; exact absurd this.symm (Nat.ne_of_gt (Char.utf8Size_pos c))

def lineBytes (l : Str) : List UInt8 := (encodeUtf8 l).data.toList

theorem mk_lineBytes (l : Str) : ByteArray.mk (lineBytes l).toArray = encodeUtf8 l := rfl

theorem lineBytes_eq (l : Str) : lineBytes l = l.flatMap String.utf8EncodeChar := by
  rw [lineBytes, encodeUtf8_eq, utf8Encode_toList]

theorem lineBytes_append (a b : Str) : lineBytes (a ++ b) = lineBytes a ++ lineBytes b := by
  simp only [lineBytes_eq, List.flatMap_append]

theorem clean_iff_lineBytes (l : Str) : Clean l ↔ (10 : UInt8) ∉ lineBytes l ∧ (13 : UInt8) ∉ lineBytes l := by
  rw [lineBytes_eq]
  constructor
  · intro h
    constructor <;> intro hm <;> obtain ⟨c, hc, hcb⟩ := List.mem_flatMap.1 hm
    · exact h.2 ((encodeChar_nl c 10 hcb).1 rfl ▸ hc)
    · exact h.1 ((encodeChar_nl c 13 hcb).2 rfl ▸ hc)
  · exact fun h => ⟨fun hm => h.2 (List.mem_flatMap.2 ⟨'\r', hm, List.mem_singleton.2 rfl⟩),
      fun hm => h.1 (List.mem_flatMap.2 ⟨'\n', hm, List.mem_singleton.2 rfl⟩)⟩

theorem lineBytes_of_decode {raw : List UInt8} {s : Str} (h : decodeUtf8 (ByteArray.mk raw.toArray) = some s) :
    lineBytes s = raw := by
  rw [lineBytes, encodeUtf8_eq, decodeUtf8_some h]

/-- every byte 13 is immediately followed by byte 10 -/
def crB : List UInt8 → Bool
  | [] => true
  | 13 :: 10 :: rest => crB rest
  | 13 :: _ => false
  | _ :: rest => crB rest

theorem crB_eq_crOk (s : List UInt8) : crB s = crOk 13 10 s := by
  fun_induction crB s with
  | case1 => rfl
  | case2 cs ih => simp [crOk, ih]
  | case3 rest h =>
    cases rest with
    | nil => rfl
    | cons d ds => simp [crOk, show d ≠ 10 from fun e => h ds (by rw [e])]
  | case4 c cs h1 h2 ih => rw [crOk_cons_ne (fun e => h2 (by rw [e])), ih]

theorem crB_last (x : List UInt8) (h : crB x = true) : x.getLast? ≠ some 13 :=
  crOk_getLast (crB_eq_crOk x ▸ h)

theorem crB_append (x r : List UInt8) (hx : crB x = true) (hr : crB r = true) : crB (x ++ r) = true := by
  rw [crB_eq_crOk] at *; exact crOk_append x r hx hr

/-- bytes have every 13 followed by 10 exactly when the text has every CR followed by LF: UTF-8 spells CR and LF
    with the single bytes 13 and 10, which occur in no other code word -/
theorem crB_encode (s : Str) : crB s.utf8Encode.data.toList = crDom s := by
  rw [utf8Encode_toList, crB_eq_crOk, crDom_eq_crOk]
  exact crOk_flatMap String.utf8EncodeChar rfl rfl (fun c h => (encodeChar_nl c 13 h).2 rfl)
    (fun c h => (encodeChar_nl c 10 h).1 rfl) encodeChar_ne_nil s

theorem crB_empty : crB ByteArray.empty.data.toList = true := rfl

theorem decode_crDom (b : ByteArray) (c : Str) (hd : decodeUtf8 b = some c) (hb : crB b.data.toList = true) : crDom c = true := by
  rw [← crB_encode, decodeUtf8_some hd]; exact hb

theorem encode_crB (c : Str) (h : crDom c = true) : crB (encodeUtf8 c).data.toList = true := by
  rw [encodeUtf8_eq, crB_encode]; exact h

/-! The splitting loop, by the two equations that say what it does with the piece in front of the first byte 10 and
    with a last piece without byte 10; nothing else looks inside `byteLines.go`. -/

/-- bytes other than 10 go to the accumulator, which holds them in reverse -/
theorem go_append (x rest acc : List UInt8) (hx : (10 : UInt8) ∉ x) :
    byteLines.go (x ++ rest) acc = byteLines.go rest (acc.reverse ++ x).reverse := by
  induction x generalizing acc with
  | nil => rw [List.append_nil, List.reverse_reverse]; rfl
  | cons b bs ih =>
    rw [List.cons_append, byteLines.go, ih (b :: acc) fun hm => hx (List.mem_cons_of_mem _ hm),
      List.reverse_cons, List.append_assoc, List.singleton_append]
    exact fun e => hx (by simp [e])

/-- `BufRead::lines` drops one byte 13 in front of the terminating byte 10 -/
def stripCr (x : List UInt8) : List UInt8 := if x.getLast? == some 13 then x.dropLast else x

theorem go_piece (x rest : List UInt8) (hx : (10 : UInt8) ∉ x) :
    byteLines.go (x ++ 10 :: rest) [] = stripCr x :: byteLines.go rest [] := by
  rw [go_append x _ [] hx, byteLines.go, List.head?_reverse, List.tail_reverse, List.reverse_reverse, List.reverse_reverse]
  rfl

theorem go_last (x : List UInt8) (hx : (10 : UInt8) ∉ x) : byteLines.go x [] = if x.isEmpty then [] else [x] := by
  rw [← List.append_nil x, go_append x [] [] hx, byteLines.go, List.isEmpty_reverse, List.reverse_reverse, List.append_nil]
  rfl

theorem byteLines_eq_go (b : List UInt8) : byteLines b = byteLines.go b [] := by cases b <;> rfl

/-- a 13 in a piece without 10 can only be its last byte, in front of a 10, where it is dropped with the terminator -/
theorem byteLines_clean (bytes : List UInt8) (h : crB bytes = true) :
    ∀ p ∈ byteLines bytes, (10 : UInt8) ∉ p ∧ (13 : UInt8) ∉ p := by
  rw [crB_eq_crOk] at h
  rw [byteLines_eq_go]
  induction bytes using List.split_ind (10 : UInt8) with
  | last a ha =>
    intro p hp
    rw [go_last a ha] at hp
    split at hp
    · cases hp
    · cases List.mem_singleton.1 hp
      exact ⟨ha, List.not_mem_of_dropLast (crOk_dropLast (r := []) (by simpa using h) ha) (crOk_getLast h)⟩
  | piece a r ha ih =>
    intro p hp
    rw [go_piece a r ha] at hp
    rcases List.mem_cons.1 hp with rfl | hp
    · have hd := crOk_dropLast h ha
      unfold stripCr
      split
      · exact ⟨fun hm => ha (List.dropLast_subset _ hm), hd⟩
      · rename_i hl; exact ⟨ha, List.not_mem_of_dropLast hd (by simpa using hl)⟩
    · exact ih (crOk_of_append (a ++ [10]) r (by simpa using h)) p hp

theorem decodeLines_mem {ps : List (List UInt8)} {l : Str} (h : l ∈ (decodeLines ps).1) :
    ∃ p ∈ ps, decodeUtf8 (ByteArray.mk p.toArray) = some l := by
  induction ps with
  | nil => cases h
  | cons p ps ih =>
    rw [decodeLines] at h
    split at h
    · cases h
    · rename_i s hd
      rcases List.mem_cons.1 h with rfl | h
      · exact ⟨p, List.mem_cons_self, hd⟩
      · obtain ⟨q, hq, hd'⟩ := ih h
        exact ⟨q, List.mem_cons_of_mem _ hq, hd'⟩

/-- C12: the lines handed to the preprocessor are free of `\r` and `\n` whenever every byte 13 of
    the source is followed by byte 10 -/
theorem source_lines_clean (bytes : List UInt8) (h : crB bytes = true) :
    ∀ l ∈ (decodeLines (byteLines bytes)).1, Clean l := by
  intro l hl
  obtain ⟨p, hp, hd⟩ := decodeLines_mem hl
  rw [clean_iff_lineBytes, lineBytes_of_decode hd]
  exact byteLines_clean bytes h p hp

theorem sniffLE_piece (x rest : List UInt8) (hx : (10 : UInt8) ∉ x) :
    sniffLE (x ++ 10 :: rest) = if x.getLast? == some 13 then ['\r', '\n'] else ['\n'] := by
  have hlt : x.length < (x ++ 10 :: rest).length := by
    rw [List.length_append, List.length_cons]; omega
  unfold sniffLE
  rw [((List.span_ne_iff 10 _ x rest).2 ⟨rfl, hx⟩).1]
  simp only [hlt, decide_true, Bool.true_and]

theorem sniffLE_cases (b : List UInt8) : sniffLE b = ['\n'] ∨ sniffLE b = ['\r', '\n'] := by
  unfold sniffLE
  simp only
  split
  · exact Or.inr rfl
  · exact Or.inl rfl

theorem sniffLE_crDom {b : List UInt8} : crDom (sniffLE b) = true := by
  rcases sniffLE_cases b with h | h <;> rw [h] <;> rfl

end Txt
