import Txtpp.Lemmas.Cycle
/-! The worker layer on top of the coordinator (DESIGN 4.7): phases, output store, and the refinement
    "concurrent run = sequential build in dependency order". Files finish in dependency order (`reach_topo`, a fact
    about the coordinator alone), so the equations `out f = render f out` have one solution on the finished list
    (`solution_unique`), the one the sequential build computes (`seqVal_solution`); the invariant of the worker
    steps (`WInv`) says that the finished outputs solve them, whatever the interleaving. -/
namespace Coord

/-- where a task of the pool is: `queued` no worker has begun it; `running` a worker executes it; `sent` its result
    is in the channel and the coordinator has not yet received it -/
inductive Phase where | queued | running | sent
deriving DecidableEq

/-- an output file: `stale b` holds `b` from before the run; `part` is being written (`File::create` in
    `CtxOut::new`, called from `IOCtx::new`, truncates it when a pass begins); `complete b` holds `b`, written by a final pass that ended `ok` -/
inductive OutState (C : Type) where
  | stale (b : C) | part | complete (b : C)

variable {C : Type}

/-- what a pass that includes the file reads; `junk` from one that is partly written -/
def valOf (junk : C) : OutState C → C
  | .stale b => b
  | .part => junk
  | .complete b => b

def fileOf : Task → File | .pp f _ => f

/-- the pass that writes the finished output: a second pass, or the first pass of a file without dependencies -/
def isFinal (w : World) : Task → Bool
  | .pp _ false => true
  | .pp f true => decide (w.deps f = [])

def isOk : Res → Bool | .ok _ => true | _ => false

/-- the coordinator state, the phase of each task, the output store -/
structure WSt (C : Type) where
  st : St
  ph : Task → Phase
  outp : File → OutState C

/-- what a pass of `f` computes from the outputs of the files it includes -/
structure Sem (C : Type) where
  /-- the output of a final pass of `f`, given what it reads at each file -/
  render : File → (File → C) → C
  /-- what is read from a partly written output (`valOf`) -/
  junk : C

def RenderLocal (w : World) (R : Sem C) : Prop :=
  ∀ f v1 v2, (∀ d ∈ w.deps f, v1 d = v2 d) → R.render f v1 = R.render f v2

/-- sequential build along a list (head = last built) -/
def seqVal (R : Sem C) : List File → File → C
  | [] => fun _ => R.junk
  | a :: l => upd (seqVal R l) a (R.render a (seqVal R l))

inductive WStep (w : World) (R : Sem C) : WSt C → WSt C → Prop where
  /-- a worker begins a queued task: the output of its file is truncated, whichever pass it is -/
  | begin (x : WSt C) (t : Task) (ht : t ∈ x.st.pool) (hq : x.ph t = .queued) :
      WStep w R x { x with ph := fun u => if u = t then .running else x.ph u,
                           outp := upd x.outp (fileOf t) .part }
  /-- the worker sends the result: only a final pass that ends `ok` has completed the output, with `render` of the
      outputs as they stand; any other pass leaves it as it is -/
  | finish (x : WSt C) (t : Task) (ht : t ∈ x.st.pool) (hr : x.ph t = .running) :
      WStep w R x { x with ph := fun u => if u = t then .sent else x.ph u,
                           outp := if isFinal w t && isOk (w.result t)
                                   then upd x.outp (fileOf t) (.complete (R.render (fileOf t) (fun d => valOf R.junk (x.outp d))))
                                   else x.outp }
  /-- the coordinator receives a sent result (`Step.deliver`); the tasks this spawns start `queued` -/
  | deliver (x : WSt C) (t : Task) (s' : St) (ht : t ∈ x.st.pool) (hs : x.ph t = .sent)
      (h : handle { x.st with pool := x.st.pool.erase t } (w.result t) = .cont s') :
      WStep w R x { st := s', ph := fun u => if u ∈ x.st.pool.erase t then x.ph u else .queued, outp := x.outp }

def TopoSorted (deps : File → List File) : List File → Prop
  | [] => True
  | a :: l => (∀ d ∈ deps a, d ∈ l) ∧ TopoSorted deps l

theorem TopoSorted.deps_mem {deps : File → List File} : ∀ {l : List File}, TopoSorted deps l →
    ∀ f ∈ l, ∀ d ∈ deps f, d ∈ l
  | [], _, _, hf, _, _ => nomatch hf
  | _ :: _, ht, f, hf, d, hd => by
    rcases List.mem_cons.1 hf with rfl | hf
    · exact List.mem_cons_of_mem _ (ht.1 d hd)
    · exact List.mem_cons_of_mem _ (ht.2.deps_mem f hf d hd)

theorem reach_topo (w : World) (inputs : List File) (s : St) (h : Reach w inputs s) : TopoSorted w.deps s.dm.fin := by
  induction h with
  | init => rw [init_fin]; trivial
  | step s s' hr hs ih =>
    obtain ⟨t, ht, hc⟩ := hs
    rcases handle_result_cont hc with ⟨a, first, rfl, _, _, hd, e⟩ | ⟨_, _, _, _, e⟩ <;> rw [e]
    · exact ⟨(reach_inv w inputs s hr).deps_fin_of_final ht hd, ih⟩
    · exact ih

theorem topo_no_cycle {deps : File → List File} {l : List File} (ht : TopoSorted deps l) (hn : l.Nodup) :
    ∀ f ∈ l, ¬ ReachesCycle deps f := by
  induction l with
  | nil => intro f hf; cases hf
  | cons a l ih =>
    have hnd := List.nodup_cons.1 hn
    intro f hf ⟨g, d, hfg, hdg, hdg'⟩
    rcases List.mem_cons.1 (hfg.mem_of_closed (S := (· ∈ a :: l)) ht.deps_mem hf) with rfl | hg
    · -- g = a: its dependency d lies in l, and from l one never gets back to a
      exact hnd.1 (hdg'.mem_of_closed (S := (· ∈ l)) ht.2.deps_mem (ht.1 d hdg))
    · exact ih ht.2 hnd.2 g hg ⟨g, d, Path.refl g, hdg, hdg'⟩

/-- C05 (⇒): a finished file cannot reach a dependency cycle -/
theorem reach_no_cycle (w : World) (inputs : List File) (s : St) (h : Reach w inputs s) :
    ∀ f ∈ s.dm.fin, ¬ ReachesCycle w.deps f :=
  topo_no_cycle (reach_topo w inputs s h) (reach_inv w inputs s h).finND

theorem seqVal_solution {w : World} {R : Sem C} (hR : RenderLocal w R) {l : List File}
    (ht : TopoSorted w.deps l) (hn : l.Nodup) : ∀ f ∈ l, seqVal R l f = R.render f (seqVal R l) := by
  induction l with
  | nil => exact fun f hf => nomatch hf
  | cons a l ih =>
    obtain ⟨ha, hnd⟩ := List.nodup_cons.1 hn
    -- building `a` changes no value on `l`, so nothing that a pass with its dependencies in `l` reads
    have hagree : ∀ g ∈ l, seqVal R (a :: l) g = seqVal R l g := fun g hg => upd_other _ _ _ _ fun e => ha (e ▸ hg)
    have hread : ∀ f, (∀ d ∈ w.deps f, d ∈ l) → R.render f (seqVal R (a :: l)) = R.render f (seqVal R l) :=
      fun f hf => hR f _ _ fun d hd => hagree d (hf d hd)
    intro f hf
    rcases List.mem_cons.1 hf with rfl | hf
    · rw [hread f ht.1]; exact upd_same _ _ _
    · rw [hagree f hf, hread f (ht.2.deps_mem f hf), ih ht.2 hnd f hf]

theorem reach_seqVal {w : World} {R : Sem C} (hR : RenderLocal w R) {inputs : List File} {s : St} (h : Reach w inputs s) :
    ∀ f ∈ s.dm.fin, seqVal R s.dm.fin f = R.render f (seqVal R s.dm.fin) :=
  seqVal_solution hR (reach_topo w inputs s h) (reach_inv w inputs s h).finND

/-- two solutions of the equations agree on a topologically sorted list: the result does not depend on
    the order in which the files were built, nor on what was on disk before -/
theorem solution_unique (w : World) (R : Sem C) (hR : RenderLocal w R) (l : List File) (ht : TopoSorted w.deps l)
    (v1 v2 : File → C) (h1 : ∀ f ∈ l, v1 f = R.render f v1) (h2 : ∀ f ∈ l, v2 f = R.render f v2) :
    ∀ f ∈ l, v1 f = v2 f := by
  induction l with
  | nil => intro f hf; simp at hf
  | cons a l ih =>
    have ih' := ih ht.2 (fun f hf => h1 f (List.mem_cons_of_mem _ hf)) (fun f hf => h2 f (List.mem_cons_of_mem _ hf))
    intro f hf; simp at hf
    rcases hf with rfl | hf
    · rw [h1 f (by simp), h2 f (by simp)]
      apply hR; intro d hd; exact ih' d (ht.1 d hd)
    · exact ih' f hf

/-- the values a pass reads from an output store (`WStep.finish`) -/
abbrev vals (R : Sem C) (outp : File → OutState C) : File → C := fun d => valOf R.junk (outp d)

/-- the output of a finished file, and of a final pass already sent, is what a pass computes from the outputs as
    they are at this moment -/
structure WInv (w : World) (R : Sem C) (x : WSt C) : Prop where
  inv : Inv w x.st
  finOut : ∀ f ∈ x.st.dm.fin, x.outp f = .complete (R.render f (vals R x.outp))
  sentOut : ∀ t ∈ x.st.pool, x.ph t = .sent → isFinal w t = true → isOk (w.result t) = true →
    x.outp (fileOf t) = .complete (R.render (fileOf t) (vals R x.outp))

theorem task_file_not_fin {w : World} {s : St} (hI : Inv w s) {t : Task} (ht : t ∈ s.pool) : fileOf t ∉ s.dm.fin :=
  match t, ht with
  | .pp _ _, ht => hI.task_unfinished ht

theorem same_file_same_task {w : World} {s : St} (hI : Inv w s) {t u : Task} (ht : t ∈ s.pool) (hu : u ∈ s.pool)
    (hf : fileOf t = fileOf u) : t = u := by
  obtain ⟨f, b⟩ := t; obtain ⟨g, c⟩ := u
  cases (hf : f = g); rw [hI.one_task ht hu]

theorem final_deps_fin {w : World} {s : St} (hI : Inv w s) {t : Task} (ht : t ∈ s.pool) (hf : isFinal w t = true) :
    ∀ d ∈ w.deps (fileOf t), d ∈ s.dm.fin :=
  match t, ht, hf with
  | .pp _ _, ht, hf => hI.deps_fin_of_final ht fun e => by subst e; simpa [isFinal, fileOf] using hf

/-- A worker that moves its task `t` to phase `p` and changes at most the output of `t`'s file disturbs nothing
    else; what it owes is the right value once the task counts as sent. -/
theorem WInv.touch {w : World} {R : Sem C} (hR : RenderLocal w R) {x : WSt C} (hI : WInv w R x) {t : Task}
    (ht : t ∈ x.st.pool) (p : Phase) (outp : File → OutState C) (hout : ∀ f, f ≠ fileOf t → outp f = x.outp f)
    (hv : p = .sent → isFinal w t = true → isOk (w.result t) = true →
      outp (fileOf t) = .complete (R.render (fileOf t) (vals R x.outp))) :
    WInv w R { x with ph := fun u => if u = t then p else x.ph u, outp := outp } := by
  have hne : ∀ f ∈ x.st.dm.fin, f ≠ fileOf t := fun f hf e => task_file_not_fin hI.inv ht (e ▸ hf)
  -- the file of `t` is unfinished, so a pass all of whose dependencies are finished reads nothing that changed
  have hloc : ∀ f, (∀ d ∈ w.deps f, d ∈ x.st.dm.fin) →
      R.render f (vals R outp) = R.render f (vals R x.outp) :=
    fun f hf => hR f _ _ fun d hd => congrArg (valOf R.junk) (hout d (hne d (hf d hd)))
  refine ⟨hI.inv, fun f hf => ?_, fun u hu hs hfu hok => ?_⟩
  · exact (hout f (hne f hf)).trans ((hI.finOut f hf).trans (by rw [hloc f (hI.inv.finDeps f hf)]))
  · show outp (fileOf u) = .complete (R.render (fileOf u) (vals R outp))
    rw [hloc _ (final_deps_fin hI.inv hu hfu)]
    by_cases hut : u = t
    · subst hut; exact hv (by simpa using hs) hfu hok
    · rw [hout _ fun e => hut (same_file_same_task hI.inv hu ht e)]
      exact hI.sentOut u hu (by simpa [hut] using hs) hfu hok

theorem wstep_preserves {w : World} {R : Sem C} (hR : RenderLocal w R) {x y : WSt C}
    (hI : WInv w R x) (h : WStep w R x y) : WInv w R y := by
  cases h with
  | begin t ht hq => exact hI.touch hR ht .running _ (fun f hf => upd_other _ _ _ _ hf) nofun
  | finish t ht hr =>
    refine hI.touch hR ht .sent _ (fun f hf => ?_) fun _ hfin hok => ?_
    · split
      · exact upd_other _ _ _ _ hf
      · rfl
    · rw [hfin, hok]; exact upd_same _ _ _
  | deliver t s' ht hs h =>
    -- the outputs stay; a task that counts as sent afterwards was in the pool, and sent, before
    refine ⟨step_preserves hI.inv (Step.deliver _ _ t ht h), ?_, fun u _ hph => ?_⟩
    · rcases handle_result_cont h with ⟨a, first, rfl, hres, _, hd, hfin⟩ | ⟨_, _, _, _, hfin⟩ <;> rw [(hfin :)]
      · -- a final, successful pass of `a`: its output becomes a finished one
        intro f hf
        rcases List.mem_cons.1 hf with rfl | hf
        · exact hI.sentOut _ ht hs (by cases first <;> simp [isFinal, hd]) (by rw [hres]; rfl)
        · exact hI.finOut f hf
      · exact hI.finOut
    · have hph : (if u ∈ x.st.pool.erase t then x.ph u else Phase.queued) = Phase.sent := hph
      split at hph
      · exact hI.sentOut u (List.mem_of_mem_erase ‹_›) hph
      · cases hph

/-- the worker executions from `init inputs`, every task queued, the outputs as `out0` gives them -/
inductive WReach (w : World) (R : Sem C) (inputs : List File) (out0 : File → OutState C) : WSt C → Prop where
  | init : WReach w R inputs out0 ⟨init inputs, fun _ => .queued, out0⟩
  | step (x y) : WReach w R inputs out0 x → WStep w R x y → WReach w R inputs out0 y

theorem wreach_inv {w : World} {R : Sem C} (hR : RenderLocal w R) {inputs out0} {x : WSt C}
    (h : WReach w R inputs out0 x) : WInv w R x := by
  induction h with
  | init => exact ⟨inv_init w inputs, fun f hf => (by rw [init_fin] at hf; cases hf), fun t _ hs => (by cases hs)⟩
  | step x y _ hs ih => exact wstep_preserves hR ih hs

theorem wreach_reach {w : World} {R : Sem C} {inputs : List File} {out0 : File → OutState C} {x : WSt C}
    (h : WReach w R inputs out0 x) : Reach w inputs x.st := by
  induction h with
  | init => exact Reach.init
  | step x y _ hs ih =>
    cases hs with
    | begin t ht hq => exact ih
    | finish t ht hr => exact ih
    | deliver t s' ht hs hc => exact Reach.step _ _ ih (Step.deliver _ _ t ht hc)

theorem wreach_finOut {w : World} {R : Sem C} (hR : RenderLocal w R) {inputs out0} {x : WSt C}
    (h : WReach w R inputs out0 x) (v : File → C) (hv : ∀ f ∈ x.st.dm.fin, v f = R.render f v) :
    ∀ f ∈ x.st.dm.fin, x.outp f = .complete (v f) := by
  have hI := wreach_inv hR h
  have hcur : ∀ f ∈ x.st.dm.fin, valOf R.junk (x.outp f) = R.render f (vals R x.outp) :=
    fun f hf => by rw [hI.finOut f hf]; rfl
  have hsol := solution_unique w R hR _ (reach_topo w inputs _ (wreach_reach h)) _ v hcur hv
  intro f hf
  rw [hI.finOut f hf, ← hcur f hf, hsol f hf]

theorem wreach_finOut_seq {w : World} {R : Sem C} (hR : RenderLocal w R) {inputs out0} {x : WSt C}
    (h : WReach w R inputs out0 x) : ∀ f ∈ x.st.dm.fin, x.outp f = .complete (seqVal R x.st.dm.fin f) :=
  wreach_finOut hR h _ (reach_seqVal hR (wreach_reach h))

/-- C02 at the exit of a successful run: every seen file is finished and its output is the
    complete, fresh value – the unique solution of `out f = render f out` – whatever the interleaving,
    the thread count and the initial content of the outputs -/
theorem success_outputs (w : World) (R : Sem C) (hR : RenderLocal w R) (inputs out0) (x : WSt C)
    (h : WReach w R inputs out0 x) (hq : x.st.pool = []) (hno : ¬ Leftover x.st) :
    (∀ f ∈ x.st.seen, f ∈ x.st.dm.fin) ∧
    (∀ f ∈ x.st.dm.fin, x.outp f = .complete (seqVal R x.st.dm.fin f)) ∧
    (∀ f ∈ x.st.dm.fin, seqVal R x.st.dm.fin f = R.render f (seqVal R x.st.dm.fin)) :=
  ⟨success_all_finished w inputs x.st (wreach_reach h) hq hno, wreach_finOut_seq hR h, reach_seqVal hR (wreach_reach h)⟩

/-- `reach_no_cycle` along a worker execution. The signature is that of `success_outputs`; what the passes compute
    plays no part, so `R` and `hR` go unused: the proof needs `Reach` alone. -/
theorem finished_no_cycle (w : World) (R : Sem C) (hR : RenderLocal w R) (inputs out0) (x : WSt C)
    (h : WReach w R inputs out0 x) : ∀ f ∈ x.st.dm.fin, ¬ ReachesCycle w.deps f :=
  have _ := hR
  reach_no_cycle w inputs x.st (wreach_reach h)

#print axioms success_outputs
#print axioms finished_no_cycle
end Coord
