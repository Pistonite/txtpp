import Txtpp.Lemmas.TagInject
/-! C14: the decomposition form of `inject_tags`: which occurrences are substituted (leftmost
    first, first occurrence of each stored name, overlapped ones skipped), what the result looks
    like, and which tags disappear. -/
namespace Txt

/-- the occurrences that are substituted: scan the position-sorted matches left to right and
    keep those that start at or after the end of the previous kept one -/
def select : List Match → Nat → List Match
  | [], _ => []
  | (i, k, v) :: ms, e => if i < e then select ms e else (i, k, v) :: select ms (i + k.length)

/-- the resulting text: pieces of the line between the selected occurrences, each occurrence
    replaced by its normalised value, values never scanned again -/
def substOut (norm : Str → Str) (line : Str) : List Match → Nat → Str
  | [], e => line.drop e
  | (i, k, v) :: ms, e => (line.drop e).take (i - e) ++ norm v ++ substOut norm line ms (i + k.length)

theorem injLoop_eq (norm : Str → Str) (line : Str) (ms : List Match) (e : Nat) (acc : Str) (rem : List Str) :
    injLoop norm line ms e acc rem =
      (acc ++ substOut norm line (select ms e) e, ((select ms e).map (·.2.1)).reverse ++ rem) := by
  fun_induction select ms e generalizing acc rem with
  | case1 => simp [injLoop, substOut]
  | case2 i k v ms e hlt ih => rw [injLoop, if_pos hlt, ih]
  | case3 i k v ms e hlt ih => rw [injLoop, if_neg hlt, ih]; simp [substOut, List.append_assoc]

theorem select_nonoverlap (ms : List Match) (e : Nat) :
    (∀ m ∈ select ms e, e ≤ m.1) ∧ (select ms e).Pairwise (fun a b => a.1 + a.2.1.length ≤ b.1) := by
  fun_induction select ms e with
  | case1 => simp
  | case2 i k v ms e hlt ih => exact ih
  | case3 i k v ms e hlt ih =>
    refine ⟨fun m hm => ?_, List.pairwise_cons.2 ⟨ih.1, ih.2⟩⟩
    rcases List.mem_cons.1 hm with rfl | hm
    · exact Nat.le_of_not_lt hlt
    · have := ih.1 m hm; omega

theorem select_sublist (ms : List Match) (e : Nat) : (select ms e).Sublist ms := by
  fun_induction select ms e with
  | case1 => exact .slnil
  | case2 i k v ms e hlt ih => exact ih.cons _
  | case3 i k v ms e hlt ih => exact ih.cons_cons _

/-- leftmost-first: in a position-sorted list every occurrence that is *not* selected starts before
    `e` or inside an earlier selected occurrence (it is overlapped by an earlier substitution) -/
theorem unselected_overlapped (ms : List Match) (e : Nat) (hs : SortedM ms) :
    ∀ m ∈ ms, m ∉ select ms e → m.1 < e ∨ ∃ s ∈ select ms e, s.1 ≤ m.1 ∧ m.1 < s.1 + s.2.1.length := by
  fun_induction select ms e with
  | case1 => simp
  | case2 i k v ms e hlt ih =>
    intro m hm hns
    rcases List.mem_cons.1 hm with rfl | hm
    · exact .inl hlt
    · exact ih (List.pairwise_cons.1 hs).2 m hm hns
  | case3 i k v ms e hlt ih =>
    obtain ⟨hs1, hs2⟩ := List.pairwise_cons.1 hs
    intro m hm hns
    rw [List.mem_cons, not_or] at hns
    rcases List.mem_cons.1 hm with rfl | hm
    · exact absurd rfl hns.1
    · rcases ih hs2 m hm hns.2 with h | ⟨s, h1, h2, h3⟩
      · exact .inr ⟨(i, k, v), List.mem_cons_self, hs1 m hm, h⟩
      · exact .inr ⟨s, List.mem_cons_of_mem _ h1, h2, h3⟩

theorem mem_select {stored : List (Str × Str)} {line : Str} {e : Nat} {m : Match}
    (h : m ∈ select (sortM (matchesOf stored line)) e) : (m.2.1, m.2.2) ∈ stored ∧ findIdx m.2.1 line = some m.1 :=
  mem_matchesOf.1 ((sortM_perm _).subset ((select_sublist _ e).subset h))

theorem inject_eq (t : TagState) (norm : Str → Str) (line : Str) :
    t.inject norm line = (substOut norm line (select (sortM (matchesOf t.stored line)) 0) 0,
      { t with stored := t.stored.filter fun kv =>
          !((select (sortM (matchesOf t.stored line)) 0).map (·.2.1)).contains kv.1 }) := by
  rw [TagState.inject, injLoop_eq]
  simp only [List.nil_append, List.append_nil, List.contains_reverse]

/-- C14, `inject_tags` by its result. The conjuncts: the text; the selected tags leave the store; `listening` is kept;
    each selected match is the first occurrence in the line of a stored name; the selected do not overlap; an
    unselected match is overlapped by a selected one. -/
theorem inject_spec (t : TagState) (norm : Str → Str) (line : Str) :
    let ms := sortM (matchesOf t.stored line)
    let sel := select ms 0
    (t.inject norm line).1 = substOut norm line sel 0 ∧
    (t.inject norm line).2.stored = t.stored.filter (fun kv => !(sel.map (·.2.1)).contains kv.1) ∧
    (t.inject norm line).2.listening = t.listening ∧
    (∀ m ∈ sel, (m.2.1, m.2.2) ∈ t.stored ∧ m.2.1 <+: line.drop m.1 ∧ ∀ j, j < m.1 → ¬ m.2.1 <+: line.drop j) ∧
    sel.Pairwise (fun a b => a.1 + a.2.1.length ≤ b.1) ∧
    (∀ m ∈ ms, m ∉ sel → ∃ s ∈ sel, s.1 ≤ m.1 ∧ m.1 < s.1 + s.2.1.length) := by
  intro ms sel
  rw [inject_eq]
  refine ⟨rfl, rfl, rfl, fun m hm => ?_, (select_nonoverlap ms 0).2, fun m hm hns => ?_⟩
  · exact ⟨(mem_select hm).1, (findIdx_some (mem_select hm).2).2⟩
  · exact (unselected_overlapped ms 0 (sortM_sorted _) m hm hns).resolve_left (Nat.not_lt_zero _)

end Txt
