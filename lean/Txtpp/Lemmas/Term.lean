import Txtpp.Lemmas.CoordTop
/-! Termination bound for the coordinator (C03) by step counting. -/
namespace Coord

def isFirst : Task → Bool | .pp _ b => b
def nFirst (l : List Task) : Nat := l.countP isFirst

theorem nFirst_append (a b : List Task) : nFirst (a ++ b) = nFirst a + nFirst b := by simp [nFirst, List.countP_append]

/-- scheduling starts as many first passes as it makes files seen -/
theorem execFiles_budget (s : St) (fs : List File) (b : Bool) :
    nFirst (execFiles s fs b).pool + s.seen.length = nFirst s.pool + (execFiles s fs b).seen.length := by
  have hmap : ∀ l : List File, nFirst (l.map (Task.pp · b)) = if b then l.length else 0 := fun l => by
    cases b <;> simp [nFirst, List.countP_map, Function.comp_def, isFirst]
  rw [execFiles_eq, nFirst_append, hmap]
  cases b <;> simp [started]; omega

theorem nFirst_erase (l : List Task) (t : Task) (ht : t ∈ l) :
    nFirst (l.erase t) + (if isFirst t then 1 else 0) = nFirst l := by
  rw [nFirst, nFirst, (List.perm_cons_erase ht).countP_eq, List.countP_cons]

/-- `ReachN w inputs n s`: `s` is reached by exactly `n` deliveries -/
inductive ReachN (w : World) (inputs : List File) : Nat → St → Prop where
  | init : ReachN w inputs 0 (init inputs)
  | step (n s s') : ReachN w inputs n s → Step w s s' → ReachN w inputs (n + 1) s'

theorem reachN_reach (w : World) (inputs n s) (h : ReachN w inputs n s) : Reach w inputs s := by
  induction h with
  | init => exact Reach.init
  | step n s s' _ hs ih => exact Reach.step s s' ih hs

/-- every delivery is paid for by a file becoming seen or finished -/
theorem step_budget (w : World) (s s' : St) (h : Step w s s') :
    nFirst s'.pool + s.seen.length + s.dm.fin.length + 1 ≤ nFirst s.pool + s'.seen.length + s'.dm.fin.length := by
  obtain ⟨t, ht, h⟩ := h
  have he := nFirst_erase s.pool _ ht
  obtain ⟨m', fs, b, hs', _⟩ := handle_cont h
  have hb : nFirst s'.pool + s.seen.length = nFirst (s.pool.erase t) + s'.seen.length :=
    hs' ▸ execFiles_budget _ fs b
  -- a file finishes, or it was a first pass that came back
  rcases handle_result_cont h with ⟨a, _, _, _, _, _, hf⟩ | ⟨a, rfl, _, _, hf⟩ <;> dsimp only at hf <;> rw [hf]
  · rw [List.length_cons]; split at he <;> omega
  · simp only [isFirst, if_true] at he; omega

theorem delivery_budget (w : World) (inputs n s) (h : ReachN w inputs n s) :
    n + nFirst s.pool ≤ s.seen.length + s.dm.fin.length := by
  induction h with
  | init =>
    have := execFiles_budget ⟨[], 0, 0, ⟨fun _ => none, fun _ => [], []⟩, []⟩ inputs true
    simp only [init, nFirst, List.countP_nil, List.length_nil] at this ⊢; omega
  | step n s s' _ hs ih => have := step_budget w s s' hs; omega

/-- C03: an execution that has seen at most `|U|` files has made at most `2·|U|` deliveries
    (`terminates_closed` discharges the hypothesis for a dependency-closed universe `U`) -/
theorem terminates (w : World) (inputs U : List File) (n : Nat) (s : St) (h : ReachN w inputs n s)
    (hseen : s.seen.length ≤ U.length) : n ≤ 2 * U.length := by
  have hb := delivery_budget w inputs n s h
  have hI := reach_inv w inputs s (reachN_reach w inputs n s h)
  have : s.dm.fin.length ≤ s.seen.length :=
    hI.finND.length_le_of_subset (fun f hf => hI.finSeen f hf)
  omega

end Coord
