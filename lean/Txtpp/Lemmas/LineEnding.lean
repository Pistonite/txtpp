import Txtpp.Lemmas.CrOk
/-! C12: everything txtpp produces from foreign text is re-split with `str::lines` and re-joined
    with the source's line ending. First what `str::lines` (`rustLines`) does with a text, then the texts whose only
    line terminator is `le` (`LEonly`) and that `formatOutput` / `replaceLE` produce such texts. -/
namespace Txt

theorem clean_nil : Clean [] := by simp [Clean]

theorem clean_cons {c : Char} {cs : Str} (h : Clean (c :: cs)) : c ≠ '\n' ∧ c ≠ '\r' ∧ Clean cs := by
  simp only [Clean, List.mem_cons, not_or] at h ⊢
  exact ⟨fun e => h.2.1 e.symm, fun e => h.1.1 e.symm, h.1.2, h.2.2⟩

theorem clean_of_subset {a b : Str} (h : ∀ c ∈ a, c ∈ b) (hb : Clean b) : Clean a :=
  ⟨fun hm => hb.1 (h _ hm), fun hm => hb.2 (h _ hm)⟩

theorem clean_append {a b : Str} (ha : Clean a) (hb : Clean b) : Clean (a ++ b) := by
  simp only [Clean, List.mem_append, not_or] at *; exact ⟨⟨ha.1, hb.1⟩, ⟨ha.2, hb.2⟩⟩

theorem joinWith_cons_cons (le a b : Str) (ls : List Str) :
    joinWith le (a :: b :: ls) = a ++ le ++ joinWith le (b :: ls) := rfl

theorem joinWith_cons (le a : Str) (R : List Str) : joinWith le (a :: R) = if R = [] then a else a ++ le ++ joinWith le R := by
  cases R <;> simp [joinWith]

theorem endsNl_of_not_mem (a : Str) (h : '\n' ∉ a) : endsNl a = false :=
  decide_eq_false fun e => h (List.mem_of_getLast? e)

theorem endsNl_append_nl (a t : Str) : endsNl (a ++ '\n' :: t) = if t = [] then true else endsNl t := by
  cases t with
  | nil => simp [endsNl]
  | cons x xs => simp [endsNl, List.getLast?_cons]

/-! `str::lines` one character at a time: besides the two terminator equations of the definition, any other
    character joins the first line of the rest. -/

theorem rustLines_cons (c : Char) (cs : Str) (hn : c ≠ '\n') (hr : c = '\r' → cs.head? ≠ some '\n') :
    rustLines (c :: cs) = (c :: (rustLines cs).headD []) :: (rustLines cs).tail := by
  rw [rustLines.eq_def]
  split
  · rename_i h; cases h
  · rename_i h; cases h; exact absurd rfl hn
  · rename_i h; cases h; exact absurd rfl (hr rfl)
  · rename_i h; cases h; cases rustLines cs <;> rfl

theorem rustLines_cr_nl (cs : Str) (h : cs.head? = some '\n') : rustLines ('\r' :: cs) = rustLines cs := by
  cases cs with
  | nil => cases h
  | cons d ds => cases Option.some.inj h; rfl

theorem rustLines_eq_nil (t : Str) : rustLines t = [] ↔ t = [] := by
  fun_cases rustLines t <;> simp [*]

theorem rustLines_mem {s l : Str} (h : l ∈ rustLines s) : '\n' ∉ l ∧ (crDom s = true → '\r' ∉ l) := by
  induction s generalizing l with
  | nil => cases h
  | cons c cs ih =>
    have hcs : ∀ {l}, l ∈ rustLines cs → '\n' ∉ l ∧ (crDom (c :: cs) = true → '\r' ∉ l) :=
      fun h => (ih h).imp_right fun k hd => k (crDom_cons.1 hd).2
    by_cases hn : c = '\n'
    · subst hn
      rcases List.mem_cons.1 (show l ∈ [] :: rustLines cs from h) with rfl | h
      · exact ⟨List.not_mem_nil, fun _ => List.not_mem_nil⟩
      · exact hcs h
    · by_cases hr : c = '\r' ∧ cs.head? = some '\n'
      · rw [hr.1, rustLines_cr_nl cs hr.2] at h; exact hcs h
      · rw [rustLines_cons c cs hn fun e h' => hr ⟨e, h'⟩] at h
        rcases List.mem_cons.1 h with rfl | h
        · have hd : '\n' ∉ (rustLines cs).headD [] ∧ (crDom (c :: cs) = true → '\r' ∉ (rustLines cs).headD []) := by
            rcases (by cases rustLines cs <;> simp :
              (rustLines cs).headD [] = [] ∨ (rustLines cs).headD [] ∈ rustLines cs) with e | e
            · rw [e]; exact ⟨List.not_mem_nil, fun _ => List.not_mem_nil⟩
            · exact hcs e
          exact ⟨fun hm => (List.mem_cons.1 hm).elim (fun e => hn e.symm) hd.1,
            fun hcr hm => (List.mem_cons.1 hm).elim (fun e => hr ⟨e.symm, (crDom_cons.1 hcr).1 e.symm⟩) (hd.2 hcr)⟩
        · exact hcs (List.mem_of_mem_tail h)

theorem rustLines_clean (s : Str) (h : crDom s = true) : ∀ l ∈ rustLines s, Clean l :=
  fun _ hl => ⟨(rustLines_mem hl).2 h, (rustLines_mem hl).1⟩

theorem rustLines_clean_cons (a t : Str) (ha : Clean a) : rustLines (a ++ '\n' :: t) = a :: rustLines t := by
  induction a with
  | nil => rw [List.nil_append, rustLines]
  | cons c cs ih =>
    obtain ⟨hn, hr, hcs⟩ := clean_cons ha
    rw [List.cons_append, rustLines_cons c _ hn (fun e => absurd e hr), ih hcs]; rfl

theorem rustLines_clean_single (a : Str) (ha : Clean a) : rustLines a = if a = [] then [] else [a] := by
  induction a with
  | nil => rfl
  | cons c cs ih =>
    obtain ⟨hn, hr, hcs⟩ := clean_cons ha
    rw [rustLines_cons c _ hn (fun e => absurd e hr), ih hcs]
    by_cases h : cs = [] <;> simp [h]

/-- `s` consists of pieces free of `\r` and `\n`, joined by `le`: every line terminator in `s` is `le`. Proofs use
    it through three rules (`LEonly_nil`, `LEonly_clean_append`, `LEonly_le_append`) and the induction over them
    (`LEonly_ind`); where the pieces are at hand, `tempBody_LEonly` takes them as they are. -/
def LEonly (le s : Str) : Prop := ∃ ls : List Str, (∀ l ∈ ls, Clean l) ∧ s = joinWith le ls

theorem LEonly_ind {le : Str} {P : Str → Prop} (h0 : P []) (hc : ∀ a r, Clean a → P r → P (a ++ r))
    (hle : ∀ r, P r → P (le ++ r)) {s : Str} (h : LEonly le s) : P s := by
  obtain ⟨ls, hcl, rfl⟩ := h
  induction ls with
  | nil => exact h0
  | cons a rest ih =>
    have ih := ih fun l hl => hcl l (List.mem_cons_of_mem _ hl)
    have ha := hcl a List.mem_cons_self
    cases rest with
    | nil => exact List.append_nil a ▸ hc a [] ha h0
    | cons b r => rw [joinWith_cons_cons, List.append_assoc]; exact hc a _ ha (hle _ ih)

theorem LEonly_nil (le : Str) : LEonly le [] := ⟨[], nofun, rfl⟩

/-- the pieces given; temp file content, the argument lines joined by `le`, is the case that names it -/
theorem tempBody_LEonly (le : Str) (body : List Str) (h : ∀ l ∈ body, Clean l) : LEonly le (joinWith le body) :=
  ⟨body, h, rfl⟩

/-- a terminator-free piece in front joins the first line -/
theorem LEonly_clean_append {le a r : Str} (ha : Clean a) (hr : LEonly le r) : LEonly le (a ++ r) := by
  obtain ⟨ls, hl, rfl⟩ := hr
  cases ls with
  | nil => exact ⟨[a], fun l h => List.mem_singleton.1 h ▸ ha, List.append_nil a⟩
  | cons l0 rest =>
    refine ⟨(a ++ l0) :: rest, fun l h => ?_, by cases rest <;> simp [joinWith, List.append_assoc]⟩
    rcases List.mem_cons.1 h with rfl | h
    · exact clean_append ha (hl l0 List.mem_cons_self)
    · exact hl l (List.mem_cons_of_mem _ h)

/-- a line ending in front opens an empty first line -/
theorem LEonly_le_append {le r : Str} (hr : LEonly le r) : LEonly le (le ++ r) := by
  obtain ⟨ls, hl, rfl⟩ := hr
  cases ls with
  | nil => exact ⟨[[], []], fun l h => by simp at h; exact h ▸ clean_nil, by simp [joinWith]⟩
  | cons l0 rest => exact ⟨[] :: l0 :: rest, fun l h => (List.mem_cons.1 h).elim (· ▸ clean_nil) (hl l), rfl⟩

theorem LEonly_le (le : Str) : LEonly le le := by
  have := LEonly_le_append (LEonly_nil le); rwa [List.append_nil] at this

theorem LEonly_clean (le : Str) {a : Str} (h : Clean a) : LEonly le a :=
  tempBody_LEonly le [a] fun _ hl => List.mem_singleton.1 hl ▸ h

theorem LEonly_append (le a b : Str) (ha : LEonly le a) (hb : LEonly le b) : LEonly le (a ++ b) :=
  LEonly_ind (P := fun s => LEonly le (s ++ b)) hb
    (fun a r hc hr => List.append_assoc a r b ▸ LEonly_clean_append hc hr)
    (fun r hr => List.append_assoc le r b ▸ LEonly_le_append hr) ha

theorem formatOutput_LEonly (le ws raw : Str) (hraw : crDom raw = true) (hws : Clean ws) :
    LEonly le (formatOutput le ws raw) := by
  refine LEonly_append _ _ _ (tempBody_LEonly le ((rustLines raw).map (ws ++ ·)) fun l hl => ?_) ?_
  · obtain ⟨x, hx, rfl⟩ := List.mem_map.1 hl
    exact clean_append hws (rustLines_clean raw hraw x hx)
  · split
    · exact LEonly_le le
    · exact LEonly_nil le

/-- without indentation `format_directive_output` is `replace_line_ending` -/
theorem formatOutput_nil_ws (le t : Str) : formatOutput le [] t = replaceLE le t := by
  simp [formatOutput, replaceLE]

/-- stored tag content is normalised the same way when it is substituted -/
theorem replaceLE_LEonly (le raw : Str) (hraw : crDom raw = true) : LEonly le (replaceLE le raw) :=
  formatOutput_nil_ws le raw ▸ formatOutput_LEonly le [] raw hraw clean_nil

theorem LEonly_crDom {le x : Str} (hle : crDom le = true) (h : LEonly le x) : crDom x = true := by
  rw [crDom_eq_crOk] at hle ⊢
  exact LEonly_ind (P := fun s => crOk '\r' '\n' s = true) rfl
    (fun a r ha hr => (crOk_append_of_not_mem a r ha.1).trans hr) (fun r hr => crOk_append _ r hle hr) h

end Txt
