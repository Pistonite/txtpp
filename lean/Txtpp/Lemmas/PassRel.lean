import Txtpp.Lemmas.Agree
import Txtpp.Lemmas.SafeCond
/-! Relational reasoning about the line loop of a pass: two runs of the same source text from two file
    systems that differ at stale paths (what earlier or interrupted runs left at generated paths) give
    the same verdict and the same output text, as long as no executed block reads a path on which the two
    states still differ (C08). One step lemma (`exec_core`) and one pass theorem (`ppPass_core`) serve
    both side conditions (`PRel` and `PRelF` are the loop relation `PLoop` with first-pass awareness off and on):
    `Safe`, and the first-pass aware `SafeTo`, under which a first pass owes nothing
    from the dependency directive it stops executing at - this is what lets the pass theorem compose
    over whole projects, where the first pass of an includer meets the still stale output of its dependency. -/
namespace Txt
open Refine (Sem machine parse Block OptRel)

/-! `OptRel` introduction forms; `route_rel`: routing the same raw output from states that differ in the world only -/

theorem rel_some {R : PpState FS → PpState FS → Prop} {sx sy : PpState FS} {o : Option Str} (h : R sx sy) :
    OptRel R (some (sx, o)) (some (sy, o)) := Or.inr ⟨sx, o, sy, o, rfl, rfl, h, rfl⟩

theorem rel_none {R : PpState FS → PpState FS → Prop} : OptRel (α := Option Str) R none none := Or.inl ⟨rfl, rfl⟩

theorem route_rel {R : PpState FS → PpState FS → Prop} (le ws raw : Str) (t : TagState) {pm : PpMode} (wx wy : FS)
    (h : ∀ t', R ⟨t', pm, wx⟩ ⟨t', pm, wy⟩) :
    OptRel R (some (routeOutput le ⟨t, pm, wx⟩ ws raw)) (some (routeOutput le ⟨t, pm, wy⟩ ws raw)) := by
  unfold routeOutput
  simp only
  cases t.tryStore raw with
  | none => exact rel_some (h t)
  | some t' => exact rel_some (h t')

/-- how two pass results are related: same verdict, same payload, agreeing worlds -/
def PassResRel (fs0 : FS) (S Sfin : List Path) : PassResult FS → PassResult FS → Prop
  | .err, .err => True
  | .hasDeps d1 a', .hasDeps d2 b' => d1 = d2 ∧ a'.dirs = fs0.dirs ∧ Agree S a' b'
  | .ok o1 a', .ok o2 b' => o1 = o2 ∧ a'.dirs = fs0.dirs ∧ Agree S a' b' ∧ Agree Sfin a' b'
  | _, _ => False

theorem PassResRel.cases {fs0 : FS} {S Sfin : List Path} {r1 r2 : PassResult FS} (h : PassResRel fs0 S Sfin r1 r2) :
    (r1 = .err ∧ r2 = .err) ∨
    (∃ deps a' b', r1 = .hasDeps deps a' ∧ r2 = .hasDeps deps b' ∧ a'.dirs = fs0.dirs ∧ Agree S a' b') ∨
    ∃ out a' b', r1 = .ok out a' ∧ r2 = .ok out b' ∧ a'.dirs = fs0.dirs ∧ Agree S a' b' ∧ Agree Sfin a' b' := by
  cases r1 <;> cases r2 <;> simp only [PassResRel] at h
  · obtain ⟨rfl, h⟩ := h; exact Or.inr (Or.inr ⟨_, _, _, rfl, rfl, h⟩)
  · obtain ⟨rfl, h⟩ := h; exact Or.inr (Or.inl ⟨_, _, _, rfl, rfl, h⟩)
  · exact Or.inl ⟨rfl, rfl⟩

/-- the binary part of the relation between the two runs, indexed by the blocks still to come. `aware` says
    whether the side condition is relaxed at the dependency directives of a first pass (it is for `PRelF`, not for
    `PRel`). `fs0`: the tree in which the side conditions resolve paths; both runs keep its directories, which is all that
    `dirReads` / `dirWrites` / `dirProbes` see; `SafeTo`'s `isDepB` also sees its files, hence the frame `Agree S0 fs0 x.w`
    in `PLoop`. `S0`: the stale set at the start of the pass; the worlds keep agreeing outside it even after the pass
    stops executing, and `ProbesOK` is stated against it. The current, shrinking stale set `S` is existential in
    `safe` and is tracked only while the pass executes. `Sfin`: what `SafeTo` leaves stale at the end. -/
structure PCore (aware : Bool) (cfg : Cfg) (fs0 : FS) (wd : Path) (S0 Sfin : List Path) (bs : List (Block Directive))
    (x y : PpState FS) : Prop where
  tags : x.tags = y.tags
  pm : x.pm = y.pm
  dirs : x.w.dirs = fs0.dirs
  agree : Agree S0 x.w y.w
  probes : ProbesOK cfg fs0 wd S0 bs
  safe : x.pm.isExecute = true → ∃ S, Agree S x.w y.w ∧ SafeTo cfg fs0 wd (aware && x.pm.isFirst) bs S Sfin

theorem agree_closed (mode : Mode) (S0 : List Path) (fs0 : FS) : FsClosed mode (· ∈ S0) (Agree S0 fs0) :=
  ⟨fun _ fs p b hp h => h.trans (Agree.write_mem fs p b hp), fun _ fs p hp h => h.trans (Agree.remove_mem fs p hp),
   fun _ _ _ h => h⟩

/-- the frame `Agree S0 fs0 x.w` along a step: a pass changes its tree at its temp targets only -/
theorem exec_frame (cfg : Cfg) (wd : Path) (src : Str) (mode : Mode) (le : Str) (fs0 : FS) (S0 : List Path)
    (x x' : PpState FS) (d : Directive) (e : Bool) (bs : List (Block Directive)) (o : Option Str)
    (hd : x.w.dirs = fs0.dirs) (hframe : Agree S0 fs0 x.w) (hw : WritesIn cfg fs0 wd S0 (.dir d e :: bs))
    (h : execDirective (fileWorld cfg wd src) mode le x d = some (x', o)) : Agree S0 fs0 x'.w :=
  (execDirective_inv_at (fileWorld cfg wd src) mode _ le x x' d
    ((agree_closed mode S0 fs0).opsPreserveAt cfg wd src fs0 d (fun t body p hty hargs hnt hres =>
      hw d e List.mem_cons_self p (by rw [dirWrites_temp cfg fs0 wd d t body hty hargs hnt]; exact hres)))
    o ⟨hframe, hd⟩ h).1

section core
variable {aware : Bool} {cfg : Cfg} {fs0 : FS} {wd : Path} {S0 Sfin : List Path} {bs : List (Block Directive)}

/-- a pass that does not execute owes nothing -/
theorem pcore_idle {b : Block Directive} {x y : PpState FS} (h : PCore aware cfg fs0 wd S0 Sfin (b :: bs) x y)
    {t' : TagState} {pm' : PpMode} (he : pm'.isExecute = false) :
    PCore aware cfg fs0 wd S0 Sfin bs ⟨t', pm', x.w⟩ ⟨t', pm', y.w⟩ :=
  ⟨rfl, rfl, h.dirs, h.agree, h.probes.tail, fun h' => by rw [he] at h'; cases h'⟩

variable (src le : Str)

/-- the execution stage, reached by an executing pass at a directive it does not skip: the directive reads
    nothing stale (`hreads`), one world operation per directive type gives the same from both worlds, and the
    relation holds again between worlds that agree outside what the directive leaves stale (`after`) -/
theorem execBody_core {tx : TagState} {px : PpMode} {wx wy : FS} {d : Directive} {e : Bool}
    (h : PCore aware cfg fs0 wd S0 Sfin (.dir d e :: bs) ⟨tx, px, wx⟩ ⟨tx, px, wy⟩)
    (he : px.isExecute = true) (hnd : ¬ ((aware && px.isFirst) = true ∧ isDepB cfg fs0 wd d = true)) :
    OptRel (PCore aware cfg fs0 wd S0 Sfin bs) (execBody (fileWorld cfg wd src) le ⟨tx, px, wx⟩ d)
      (execBody (fileWorld cfg wd src) le ⟨tx, px, wy⟩ d) := by
  obtain ⟨S, hS, hsafe⟩ := h.safe he
  dsimp only [SafeTo] at hsafe
  obtain ⟨hreads, hsafe⟩ := hsafe.resolve_left hnd
  have after : ∀ (t' : TagState) (a' b' : FS), a'.dirs = fs0.dirs → Agree S0 a' b' →
      Agree (staleAfterDir cfg fs0 wd d S) a' b' → PCore aware cfg fs0 wd S0 Sfin bs ⟨t', px, a'⟩ ⟨t', px, b'⟩ :=
    fun t' a' b' hd' h0 hS' => ⟨rfl, rfl, hd', h0, h.probes.tail, fun _ => ⟨_, hS', hsafe⟩⟩
  unfold execBody
  by_cases htemp : d.ty = .temp
  · -- both runs write the same bytes at the target, which leaves the stale set
    rw [htemp]
    dsimp only
    rcases execTemp_rel cfg wd src le wx wy d.args h.agree.1 with ⟨n1, n2⟩ |
      ⟨t, body, p, a', b', hargs, hnt, hres, ha, hb, hda, fresh⟩
    · rw [n1, n2]; exact rel_none
    · rw [ha, hb]
      have hw : dirWrites cfg fs0 wd d = some p := by
        rw [dirWrites_temp cfg fs0 wd d t body htemp hargs hnt, ← resolve_dirs fs0 wx cfg wd t h.dirs]; exact hres
      exact rel_some (after tx a' b' (hda.trans h.dirs) (fresh S0 h.agree).of_filter
        (by rw [staleAfterDir, hw]; exact fresh S hS))
  -- every other directive leaves what is stale as it is
  rw [staleAfterDir_other htemp] at after
  have same : ∀ (t' : TagState), PCore aware cfg fs0 wd S0 Sfin bs ⟨t', px, wx⟩ ⟨t', px, wy⟩ := fun t' => after t' wx wy h.dirs h.agree hS
  cases hty : d.ty <;> dsimp only
  · exact rel_some (same _)
  · rw [readInclude_rel cfg wd src _ hS h.dirs (fun p hp => hreads p (by simp only [dirReads, hty, hp]; exact List.mem_cons_self))]
    cases (fileWorld cfg wd src).readInclude wy (d.args.headD []) with
    | none => exact rel_none
    | some c => exact route_rel le d.ws c tx wx wy same
  · exact rel_some (same _)
  · have r1 := run_rel cfg wd src (joinWith [' '] d.args) hS h.dirs (by simpa only [dirReads, hty] using hreads)
    have r2 : ∀ t', PCore aware cfg fs0 wd S0 Sfin bs ⟨t', px, ((fileWorld cfg wd src).run wx (joinWith [' '] d.args)).2⟩
        ⟨t', px, ((fileWorld cfg wd src).run wy (joinWith [' '] d.args)).2⟩ := fun t' =>
      after t' _ _ ((run_dirs cfg wd src wx _).trans h.dirs) (h.agree.run cfg wd src _ _) (hS.run cfg wd src _ _)
    rcases hra : (fileWorld cfg wd src).run wx (joinWith [' '] d.args) with ⟨oa, wa⟩
    rcases hrb : (fileWorld cfg wd src).run wy (joinWith [' '] d.args) with ⟨ob, wb⟩
    rw [hra, hrb] at r1 r2
    dsimp only at r1 r2
    subst r1
    cases oa with
    | none => exact rel_none
    | some out => exact route_rel le d.ws out tx wa wb r2
  · cases tx.create (d.args.headD []) with
    | none => exact rel_none
    | some t' => exact rel_some (same _)
  · exact absurd hty htemp
  · exact route_rel le d.ws _ tx wx wy same

/-- **the relational step**: the dependency stage, then the execution stage. `hframe` is asked for only
    where the side condition is relaxed: there the dependency look-up in the current tree has to be the
    look-up in `fs0`, in which `SafeTo` decided that the directive is a dependency. -/
theorem exec_core (mode : Mode) (hm : mode ≠ .clean)
    (x y : PpState FS) (d : Directive) (e : Bool) (hframe : aware = true → Agree S0 fs0 x.w)
    (h : PCore aware cfg fs0 wd S0 Sfin (.dir d e :: bs) x y) :
    OptRel (PCore aware cfg fs0 wd S0 Sfin bs) (execDirective (fileWorld cfg wd src) mode le x d)
      (execDirective (fileWorld cfg wd src) mode le y d) := by
  obtain ⟨tx, px, wx⟩ := x
  obtain ⟨ty, py, wy⟩ := y
  obtain ⟨rfl, rfl⟩ : tx = ty ∧ px = py := ⟨h.tags, h.pm⟩
  have stage2 : ¬ ((aware && px.isFirst) = true ∧ isDepB cfg fs0 wd d = true) →
      OptRel (PCore aware cfg fs0 wd S0 Sfin bs)
        (if px.isExecute = true then execBody (fileWorld cfg wd src) le ⟨tx, px, wx⟩ d else some (⟨tx, px, wx⟩, none))
        (if px.isExecute = true then execBody (fileWorld cfg wd src) le ⟨tx, px, wy⟩ d else some (⟨tx, px, wy⟩, none)) := by
    intro hnd
    by_cases he : px.isExecute = true
    · rw [if_pos he, if_pos he]; exact execBody_core src le h he hnd
    · rw [if_neg he, if_neg he]; exact rel_some (pcore_idle h (by simpa using he))
  rw [execDirective_eq _ _ hm, execDirective_eq _ _ hm, collectDep_eq, collectDep_eq]
  dsimp only
  by_cases hc : px ≠ .exec ∧ (d.ty = .include ∨ d.ty = .after)
  · have hpr : ∀ p ∈ depProbes cfg fs0 wd (d.args.headD []), p ∉ S0 := by
      simpa only [dirProbes, hc.2, if_true] using h.probes d e List.mem_cons_self
    have hdep : wx.depOf cfg wd (d.args.headD []) = wy.depOf cfg wd (d.args.headD []) := h.agree.depOf cfg wd fs0 _ h.dirs hpr
    rw [if_pos hc, if_pos hc]
    dsimp only [fileWorld]
    rw [hdep]
    cases hdy : wy.depOf cfg wd (d.args.headD []) with
    | some dep => exact rel_some (pcore_idle h rfl)
    | none =>
      refine stage2 (fun hf => ?_)
      -- the look-up in the current tree is the look-up in the tree the pass started from
      have h0 : fs0.depOf cfg wd (d.args.headD []) = none := by
        rw [(hframe (Bool.and_eq_true_iff.1 hf.1).1).depOf cfg wd fs0 _ rfl hpr, hdep, hdy]
      have := ((isDepB_iff ..).1 hf.2).2
      rw [h0] at this
      cases this
  · rw [if_neg hc, if_neg hc]
    refine stage2 (fun hf => hc ⟨fun hx => ?_, ((isDepB_iff ..).1 hf.2).1⟩)
    have := (Bool.and_eq_true_iff.1 hf.1).2
    rw [hx] at this
    cases this

theorem text_core (mode : Mode) (x y : PpState FS) (l : Str) (h : PCore aware cfg fs0 wd S0 Sfin (.text l :: bs) x y) :
    PCore aware cfg fs0 wd S0 Sfin bs ((txtppSem (fileWorld cfg wd src) mode le).text x l).1
      ((txtppSem (fileWorld cfg wd src) mode le).text y l).1 ∧
    ((txtppSem (fileWorld cfg wd src) mode le).text x l).2 = ((txtppSem (fileWorld cfg wd src) mode le).text y l).2 := by
  obtain ⟨tx, px, wx⟩ := x
  obtain ⟨ty, py, wy⟩ := y
  obtain ⟨rfl, rfl⟩ : tx = ty ∧ px = py := ⟨h.tags, h.pm⟩
  dsimp only [txtppSem]
  by_cases he : px.isExecute = true
  · rw [if_pos he, if_pos he]
    exact ⟨⟨rfl, rfl, h.dirs, h.agree, h.probes.tail, h.safe⟩, rfl⟩
  · rw [if_neg he, if_neg he]
    exact ⟨pcore_idle h (by simpa using he), rfl⟩

/-- the relation the line loop carries: the core and, where the side condition is relaxed, a unary frame -
    the pass has changed its tree only inside `S0`, where the temp targets of the blocks to come lie -/
def PLoop (aware : Bool) (cfg : Cfg) (fs0 : FS) (wd : Path) (S0 Sfin : List Path) (bs : List (Block Directive))
    (x y : PpState FS) : Prop :=
  PCore aware cfg fs0 wd S0 Sfin bs x y ∧ (aware = true → Agree S0 fs0 x.w ∧ WritesIn cfg fs0 wd S0 bs)

theorem exec_loop (mode : Mode) (hm : mode ≠ .clean) (x y : PpState FS) (d : Directive) (e : Bool)
    (h : PLoop aware cfg fs0 wd S0 Sfin (.dir d e :: bs) x y) :
    OptRel (PLoop aware cfg fs0 wd S0 Sfin bs) (execDirective (fileWorld cfg wd src) mode le x d)
      (execDirective (fileWorld cfg wd src) mode le y d) :=
  (exec_core src le mode hm x y d e (fun hf => (h.2 hf).1) h.1).imp fun x' o _ hx _ hr =>
    ⟨hr, fun hex => ⟨exec_frame cfg wd src mode le fs0 S0 x x' d e bs o h.1.dirs (h.2 hex).1 (h.2 hex).2 hx, (h.2 hex).2.tail⟩⟩

theorem text_loop (mode : Mode) (x y : PpState FS) (l : Str) (h : PLoop aware cfg fs0 wd S0 Sfin (.text l :: bs) x y) :
    PLoop aware cfg fs0 wd S0 Sfin bs ((txtppSem (fileWorld cfg wd src) mode le).text x l).1
      ((txtppSem (fileWorld cfg wd src) mode le).text y l).1 ∧
    ((txtppSem (fileWorld cfg wd src) mode le).text x l).2 = ((txtppSem (fileWorld cfg wd src) mode le).text y l).2 :=
  ⟨⟨(text_core src le mode x y l h.1).1, fun hex => ⟨by rw [text_w]; exact (h.2 hex).1, (h.2 hex).2.tail⟩⟩,
    (text_core src le mode x y l h.1).2⟩

end core

/-- `PLoop false` written out: the relation between the two runs under the side condition `Safe` -/
def PRel (cfg : Cfg) (fs0 : FS) (wd : Path) (S0 Sfin : List Path) (bs : List (Block Directive)) (x y : PpState FS) : Prop :=
  x.tags = y.tags ∧ x.pm = y.pm ∧ x.w.dirs = fs0.dirs ∧ Agree S0 x.w y.w ∧ ProbesOK cfg fs0 wd S0 bs ∧
  (x.pm.isExecute = true → ∃ S, Agree S x.w y.w ∧ Safe cfg fs0 wd bs S ∧ staleAfter cfg fs0 wd bs S = Sfin)

/-- `PLoop true` written out: the relation under the first-pass aware `SafeTo`; `Agree S0 fs0 x.w` is the
    frame: the pass changes its tree only inside `S0` -/
def PRelF (cfg : Cfg) (fs0 : FS) (wd : Path) (S0 Sfin : List Path) (bs : List (Block Directive)) (x y : PpState FS) : Prop :=
  x.tags = y.tags ∧ x.pm = y.pm ∧ x.w.dirs = fs0.dirs ∧ Agree S0 x.w y.w ∧ Agree S0 fs0 x.w ∧
  ProbesOK cfg fs0 wd S0 bs ∧ WritesIn cfg fs0 wd S0 bs ∧
  (x.pm.isExecute = true → ∃ S, Agree S x.w y.w ∧ SafeTo cfg fs0 wd x.pm.isFirst bs S Sfin)

theorem ploop_false_iff (cfg : Cfg) (fs0 : FS) (wd : Path) (S0 Sfin : List Path) (bs : List (Block Directive)) (x y : PpState FS) :
    PLoop false cfg fs0 wd S0 Sfin bs x y ↔ PRel cfg fs0 wd S0 Sfin bs x y := by
  simp only [PRel, ← safeTo_false_iff]
  exact ⟨fun ⟨⟨a, b, c, d, e, f⟩, _⟩ => ⟨a, b, c, d, e, f⟩,
    fun ⟨a, b, c, d, e, f⟩ => ⟨⟨a, b, c, d, e, f⟩, fun h => nomatch h⟩⟩

theorem ploop_first_iff (cfg : Cfg) (fs0 : FS) (wd : Path) (S0 Sfin : List Path) (bs : List (Block Directive)) (x y : PpState FS) :
    PLoop true cfg fs0 wd S0 Sfin bs x y ↔ PRelF cfg fs0 wd S0 Sfin bs x y :=
  ⟨fun ⟨⟨a, b, c, d, f, h⟩, g⟩ => let ⟨e, w⟩ := g rfl; ⟨a, b, c, d, e, f, w, h⟩,
   fun ⟨a, b, c, d, e, f, w, h⟩ => ⟨⟨a, b, c, d, f, h⟩, fun _ => ⟨e, w⟩⟩⟩

theorem exec_rel (cfg : Cfg) (wd : Path) (src : Str) (mode : Mode) (hm : mode ≠ .clean) (le : Str) (fs0 : FS) (S0 Sfin : List Path)
    (x y : PpState FS) (d : Directive) (e : Bool) (bs : List (Block Directive))
    (h : PRel cfg fs0 wd S0 Sfin (.dir d e :: bs) x y) :
    OptRel (PRel cfg fs0 wd S0 Sfin bs) (execDirective (fileWorld cfg wd src) mode le x d)
      (execDirective (fileWorld cfg wd src) mode le y d) :=
  (exec_loop src le mode hm x y d e ((ploop_false_iff ..).2 h)).imp
    (fun _ _ _ _ _ hr => (ploop_false_iff ..).1 hr)

theorem exec_relF (cfg : Cfg) (wd : Path) (src : Str) (mode : Mode) (hm : mode ≠ .clean) (le : Str) (fs0 : FS) (S0 Sfin : List Path)
    (x y : PpState FS) (d : Directive) (e : Bool) (bs : List (Block Directive))
    (h : PRelF cfg fs0 wd S0 Sfin (.dir d e :: bs) x y) :
    OptRel (PRelF cfg fs0 wd S0 Sfin bs) (execDirective (fileWorld cfg wd src) mode le x d)
      (execDirective (fileWorld cfg wd src) mode le y d) :=
  (exec_loop src le mode hm x y d e ((ploop_first_iff ..).2 h)).imp
    (fun _ _ _ _ _ hr => (ploop_first_iff ..).1 hr)

/-- **the relational pass theorem**: the line loop of a pass run from two states that agree outside `S`
    gives the same verdict and the same output text, provided no executed block reads a path that is
    still stale when it is reached (`SafeTo`) and no dependency look-up probes a stale path (`ProbesOK`).
    Where the side condition is relaxed, `S` must contain every path the pass itself may write (`hfr`). -/
theorem ppPass_core (aware : Bool)
    (cfg : Cfg) (wd : Path) (src : Str) (mode : Mode) (hm : mode ≠ .clean) (le : Str) (first trailing : Bool)
    {fs0 a b : FS} {S Sfin : List Path} {lines : List Str} (readOk : Bool) {bs : List (Block Directive)}
    (hbs : srcBlocks mode lines = some bs)
    (hd : a.dirs = fs0.dirs) (hag : Agree S a b)
    (hfr : aware = true → Agree S fs0 a ∧ WritesIn cfg fs0 wd S bs)
    (hsafe : SafeTo cfg fs0 wd (aware && first) bs S Sfin) (hprobes : ProbesOK cfg fs0 wd S bs) :
    PassResRel fs0 S Sfin
      (ppPass (fileWorld cfg wd src) mode le first trailing a lines readOk)
      (ppPass (fileWorld cfg wd src) mode le first trailing b lines readOk) := by
  cases readOk with
  | false => trivial
  | true =>
    rw [ppPass_eq, ppPass_eq]
    have hrel := Refine.machine_rel (txtppSem (fileWorld cfg wd src) mode le) (PLoop aware cfg fs0 wd S Sfin) trailing lines
      (fun x y d e _ => exec_loop src le mode hm x y d e) (fun x y l _ => text_loop src le mode x y l)
      (startState first a) (startState first b)
      (by
        intro bs' hp
        rw [parse_eq_srcBlocks, hbs] at hp
        cases hp
        exact ⟨⟨rfl, rfl, hd, hag, hprobes, fun _ => ⟨S, hag, by cases first <;> exact hsafe⟩⟩, hfr⟩)
    rcases hrel with ⟨h1, h2⟩ | ⟨x, ox, y, oy, h1, h2, ⟨h3, _⟩, rfl⟩ <;> rw [h1, h2]
    · trivial
    · dsimp only [passResult]
      rw [← h3.tags, ← h3.pm]
      cases hpm : x.pm with
      | collect deps => exact ⟨rfl, h3.dirs, h3.agree⟩
      | _ =>
        dsimp only
        split
        · trivial
        · obtain ⟨S', hS', hfin⟩ := h3.safe (by rw [hpm]; rfl)
          cases hfin
          exact ⟨rfl, h3.dirs, h3.agree, hS'⟩

/-- **relational pass theorem, first-pass aware**: a first pass owes nothing for the dependency directive
    it stops executing at, nor for anything after it. `S` must contain every path the pass itself may
    write (`WritesIn`, `hframe`). -/
theorem ppPass_relF (cfg : Cfg) (wd : Path) (src : Str) (mode : Mode) (hm : mode ≠ .clean) (le : Str) (first trailing : Bool)
    (fs0 a b : FS) (S Sfin : List Path) (lines : List Str) (readOk : Bool) (bs : List (Block Directive))
    (hbs : srcBlocks mode lines = some bs)
    (hd : a.dirs = fs0.dirs) (hag : Agree S a b) (hframe : Agree S fs0 a)
    (hsafe : SafeTo cfg fs0 wd first bs S Sfin) (hprobes : ProbesOK cfg fs0 wd S bs) (hwrites : WritesIn cfg fs0 wd S bs) :
    PassResRel fs0 S Sfin
      (ppPass (fileWorld cfg wd src) mode le first trailing a lines readOk)
      (ppPass (fileWorld cfg wd src) mode le first trailing b lines readOk) :=
  ppPass_core true cfg wd src mode hm le first trailing readOk hbs hd hag (fun _ => ⟨hframe, hwrites⟩) hsafe hprobes

end Txt
