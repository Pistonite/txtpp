import Txtpp.Model.Lines
/-! "Every `cr` is immediately followed by `lf`" over any alphabet, as a condition on each position (it looks
    one letter ahead). `crDom` on characters and `crB` on bytes are its two instances; what is structural
    (a piece in front, concatenation, the last letter, a letter-by-letter encoding) is proved here once. -/
namespace Txt
section
variable {α β : Type} [DecidableEq α] [DecidableEq β]

def crOk (cr lf : α) : List α → Bool
  | [] => true
  | x :: xs => decide (x = cr → xs.head? = some lf) && crOk cr lf xs

variable {cr lf : α}

theorem crOk_cons {x : α} {xs : List α} :
    crOk cr lf (x :: xs) = true ↔ (x = cr → xs.head? = some lf) ∧ crOk cr lf xs = true := by
  rw [crOk, Bool.and_eq_true, decide_eq_true_eq]

theorem crOk_cons_ne {x : α} (h : x ≠ cr) (xs : List α) : crOk cr lf (x :: xs) = crOk cr lf xs := by
  simp [crOk, h]

theorem crOk_cr_cons (xs : List α) : crOk cr lf (cr :: xs) = (decide (xs.head? = some lf) && crOk cr lf xs) := by
  simp [crOk]

theorem crOk_append_of_not_mem (x r : List α) (h : cr ∉ x) : crOk cr lf (x ++ r) = crOk cr lf r := by
  induction x with
  | nil => rfl
  | cons b bs ih =>
    rw [List.cons_append, crOk_cons_ne (fun e => h (by simp [e])), ih (fun hm => h (List.mem_cons_of_mem _ hm))]

theorem crOk_append (x r : List α) (hx : crOk cr lf x = true) (hr : crOk cr lf r = true) :
    crOk cr lf (x ++ r) = true := by
  induction x with
  | nil => exact hr
  | cons b bs ih =>
    rw [List.cons_append, crOk_cons] at *
    refine ⟨fun e => ?_, ih hx.2⟩
    have h := hx.1 e
    cases bs with
    | nil => cases h
    | cons c cs => exact h

theorem crOk_of_append (x r : List α) (h : crOk cr lf (x ++ r) = true) : crOk cr lf r = true := by
  induction x with
  | nil => exact h
  | cons b bs ih => exact ih (crOk_cons.1 h).2

theorem crOk_getLast {x : List α} (h : crOk cr lf x = true) : x.getLast? ≠ some cr := by
  induction x with
  | nil => simp
  | cons b bs ih =>
    rw [crOk_cons] at h
    cases bs with
    | nil => intro e; cases h.1 (Option.some.inj e)
    | cons c cs => rw [List.getLast?_cons_cons]; exact ih h.2

/-- in a piece without `lf`, a `cr` can only be the last letter -/
theorem crOk_dropLast {x r : List α} (h : crOk cr lf (x ++ r) = true) (hlf : lf ∉ x) : cr ∉ x.dropLast := by
  induction x with
  | nil => simp
  | cons a x ih =>
    cases x with
    | nil => simp
    | cons b t =>
      rw [List.cons_append, crOk_cons] at h
      rw [List.dropLast_cons_cons, List.mem_cons, not_or]
      refine ⟨fun e => hlf ?_, ih h.2 fun hm => hlf (List.mem_cons_of_mem _ hm)⟩
      have := Option.some.inj (h.1 e.symm)
      rw [this]; simp

/-- `f` encodes letters by non-empty words and spells `cr`, `lf` with single letters that occur in no other code word -/
theorem crOk_flatMap {cr' lf' : β} (f : α → List β) (hcr : f cr = [cr']) (hlf : f lf = [lf'])
    (icr : ∀ c, cr' ∈ f c → c = cr) (ilf : ∀ c, lf' ∈ f c → c = lf) (hne : ∀ c, f c ≠ []) (l : List α) :
    crOk cr' lf' (l.flatMap f) = crOk cr lf l := by
  have hhead : ∀ l : List α, (l.flatMap f).head? = some lf' ↔ l.head? = some lf := by
    intro l
    cases l with
    | nil => simp
    | cons d ds =>
      obtain ⟨b, bs, hb⟩ := List.exists_cons_of_ne_nil (hne d)
      rw [List.flatMap_cons, hb, List.cons_append, List.head?_cons, List.head?_cons]
      by_cases hd : d = lf
      · have : b = lf' := by rw [hd, hlf] at hb; exact (List.cons.inj hb).1.symm
        simp [hd, this]
      · have : b ≠ lf' := fun e => hd (ilf d (by rw [hb, e]; exact List.mem_cons_self))
        simp [hd, this]
  induction l with
  | nil => rfl
  | cons c l ih =>
    rw [List.flatMap_cons]
    by_cases hc : c = cr
    · subst hc; rw [hcr, List.singleton_append, crOk_cr_cons, crOk_cr_cons, ih, decide_eq_decide.2 (hhead l)]
    · rw [crOk_append_of_not_mem _ _ (fun h => hc (icr c h)), crOk_cons_ne hc, ih]
end

theorem crDom_eq_crOk (s : Str) : crDom s = crOk '\r' '\n' s := by
  fun_induction crDom s with
  | case1 => rfl
  | case2 cs ih => simp [crOk, ih]
  | case3 rest h =>
    cases rest with
    | nil => rfl
    | cons d ds => simp [crOk, show d ≠ '\n' from fun e => h ds (by rw [e])]
  | case4 c cs h1 h2 ih => rw [crOk_cons_ne (fun e => h2 (by rw [e])), ih]

theorem crDom_cons {c : Char} {cs : Str} :
    crDom (c :: cs) = true ↔ (c = '\r' → cs.head? = some '\n') ∧ crDom cs = true := by
  rw [crDom_eq_crOk, crDom_eq_crOk]; exact crOk_cons

end Txt
