import Txtpp.Lemmas.MachineSpec
import Txtpp.Model.Lines
/-! Consequences of `machine_eq_spec`. A run of the streaming machine is a parse, an evaluation and a
    rendering, so facts about it are proved on that side: unary ones through `eval_ind` (with `render_closed`:
    `machine_ind`), relational ones through `eval_rel` / `machine_rel`. Only the fact about the *last* line (C13,
    `trailing_text_last`) and the one-directive source (`machine_single`) are proved on the streaming side, where
    appending a line is one more `feed`. -/
namespace Refine
variable {D σ : Type}

theorem parse_congr {σ' : Type} (S : Sem D σ) (S' : Sem D σ') (hd : S.detect = S'.detect) (hb : S.badStart = S'.badStart)
    (ha : S.addLine = S'.addLine) : ∀ (lines : List Str) (cur : Option D), parse S cur lines = parse S' cur lines := by
  intro lines
  induction lines with
  | nil => intro cur; cases cur <;> rfl
  | cons l ls ih =>
    intro cur
    cases cur with
    | none => simp only [parse, hd, hb, ih]
    | some d => simp only [parse, hd, hb, ha, ih]

/-- a semantics `S'` that agrees with `S` on `addLine`, on every start `S` accepts and on every non-start parses to the
    same blocks wherever `S` parses at all (`S'` may differ only at starts `S` rejects: clean mode, `parse_clean_eq_build`) -/
theorem parse_of_accepts {σ' : Type} (S : Sem D σ) (S' : Sem D σ') (ha : S'.addLine = S.addLine)
    (hd : ∀ l d, S.detect l = some d → S.badStart d = false → S'.detect l = some d ∧ S'.badStart d = false)
    (hn : ∀ l, S.detect l = none → S'.detect l = none) :
    ∀ (lines : List Str) (cur : Option D) (bs : List (Block D)), parse S cur lines = some bs → parse S' cur lines = some bs := by
  refine parse_ind S (fun _ h => h) (fun _ _ h => h) ?_ ?_ ?_ ?_ ?_
  · intro l ls d hd' hb bs h; rw [parse_bad S ls hd' hb] at h; cases h
  · intro l ls d hd' hb ih bs h
    rw [parse_start S ls hd' hb] at h
    rw [parse_start S' ls (hd l d hd' hb).1 (hd l d hd' hb).2]; exact ih bs h
  · intro l ls hd' ih bs h
    rw [parse_text S ls hd'] at h
    obtain ⟨bs', hp, rfl⟩ := Option.map_eq_some_iff.1 h
    rw [parse_text S' ls (hn l hd'), ih bs' hp]; rfl
  · intro d l ls d' ha' ih bs h
    rw [parse_cont S ls ha'] at h
    rw [parse_cont S' ls (ha ▸ ha')]; exact ih bs h
  · intro d l ls ha' ih bs h
    rw [parse_close S d l ls ha'] at h
    obtain ⟨bs', hp, rfl⟩ := Option.map_eq_some_iff.1 h
    rw [parse_close S' d l ls (ha ▸ ha'), ih bs' hp]; rfl

/-- `Q`: a property of the source lines; `K`: what `detect` establishes from `Q`-lines and `addLine` keeps, hence
    holds of every directive block -/
theorem parse_forall (S : Sem D σ) (Q : Str → Prop) (K : D → Prop)
    (hdet : ∀ l d, Q l → S.detect l = some d → K d)
    (hadd : ∀ d l d', K d → Q l → S.addLine d l = some d' → K d') :
    ∀ (lines : List Str) (cur : Option D) (bs : List (Block D)), (∀ l ∈ lines, Q l) → (∀ d, cur = some d → K d) →
      parse S cur lines = some bs → ∀ b ∈ bs, match b with | .text l => Q l | .dir d _ => K d := by
  refine parse_ind S ?_ ?_ ?_ ?_ ?_ ?_ ?_
  · intro bs _ _ h; cases h; nofun
  · intro d bs _ hK h; cases h; exact List.forall_mem_singleton.2 (hK d rfl)
  · intro l ls d hd hb bs _ _ h; rw [parse_bad S ls hd hb] at h; cases h
  · intro l ls d hd hb ih bs hQ _ h
    rw [parse_start S ls hd hb] at h
    exact ih bs (fun x hx => hQ x (List.mem_cons_of_mem _ hx)) (fun d' hd' => by cases hd'; exact hdet l d (hQ l List.mem_cons_self) hd) h
  · intro l ls hd ih bs hQ _ h
    rw [parse_text S ls hd] at h
    obtain ⟨bs', hp, rfl⟩ := Option.map_eq_some_iff.1 h
    exact List.forall_mem_cons.2 ⟨hQ l List.mem_cons_self, ih bs' (fun x hx => hQ x (List.mem_cons_of_mem _ hx)) nofun hp⟩
  · intro d l ls d' ha ih bs hQ hK h
    rw [parse_cont S ls ha] at h
    exact ih bs (fun x hx => hQ x (List.mem_cons_of_mem _ hx))
      (fun d2 hd2 => by cases hd2; exact hadd d l d' (hK d rfl) (hQ l List.mem_cons_self) ha) h
  · intro d l ls ha ih bs hQ hK h
    rw [parse_close S d l ls ha] at h
    obtain ⟨bs', hp, rfl⟩ := Option.map_eq_some_iff.1 h
    exact List.forall_mem_cons.2 ⟨hK d rfl, ih bs' hQ nofun hp⟩

theorem parse_isSome (S : Sem D σ) (hbad : ∀ l d, S.detect l = some d → S.badStart d = false) :
    ∀ (lines : List Str) (cur : Option D), (parse S cur lines).isSome := by
  refine parse_ind S rfl (fun _ => rfl) ?_ ?_ ?_ ?_ ?_
  · intro l ls d hd hb; rw [hbad l d hd] at hb; cases hb
  · intro l ls d hd hb ih; rwa [parse_start S ls hd hb]
  · intro l ls hd ih; rw [parse_text S ls hd]; simpa using ih
  · intro d l ls d' ha ih; rwa [parse_cont S ls ha]
  · intro d l ls ha ih; rw [parse_close S d l ls ha]; simpa using ih

theorem machine_eq_bind (S : Sem D σ) (t : Bool) (s0 : σ) (lines : List Str) :
    machine S t s0 lines =
      (parse S none lines).bind fun bs => (eval S s0 bs).map fun r => (r.1, render S.le t false r.2) :=
  (machine_eq_spec S t s0 lines).trans (spec_eq_bind S t s0 lines)

theorem machine_eq_some (S : Sem D σ) (t : Bool) (s0 : σ) (lines : List Str) (s : σ) (out : Str) :
    machine S t s0 lines = some (s, out) ↔
      ∃ bs cs, parse S none lines = some bs ∧ eval S s0 bs = some (s, cs) ∧ render S.le t false cs = out := by
  rw [machine_eq_bind]
  constructor
  · intro h
    obtain ⟨bs, hp, h⟩ := Option.bind_eq_some_iff.1 h
    obtain ⟨⟨s1, cs⟩, he, h⟩ := Option.map_eq_some_iff.1 h
    cases h; exact ⟨bs, cs, hp, he, rfl⟩
  · rintro ⟨bs, cs, hp, he, rfl⟩
    rw [hp, Option.bind_some, he]; rfl

/-- `eval` of a cons in one shape for both kinds of block: a step, then the rest with at most one chunk in front -/
theorem eval_text (S : Sem D σ) (s : σ) (l : Str) (bs : List (Block D)) :
    eval S s (.text l :: bs) =
      (eval S (S.text s l).1 bs).map fun r => (r.1, ((S.text s l).2.map (⟨·, true⟩)).toList ++ r.2) := by
  simp only [eval]
  rcases S.text s l with ⟨s', _ | l'⟩ <;> dsimp only
  · cases eval S s' bs <;> rfl
  · rfl

theorem eval_dir (S : Sem D σ) (s : σ) (d : D) (e : Bool) (bs : List (Block D)) :
    eval S s (.dir d e :: bs) =
      (S.exec s d).bind fun x => (eval S x.1 bs).map fun r => (r.1, (x.2.map (⟨·, e⟩)).toList ++ r.2) := by
  simp only [eval]
  rcases S.exec s d with _ | ⟨s', _ | c⟩ <;> dsimp only [Option.bind_some]
  · rfl
  · cases eval S s' bs <;> rfl
  · rfl

/-- the one unary induction over `eval`: an invariant `J` of the state, which may depend on the blocks
    still to come, and a property `P` of the chunks produced -/
theorem eval_ind (S : Sem D σ) (J : List (Block D) → σ → Prop) (P : Chunk → Prop)
    (hexec : ∀ d e bs s s' o, J (.dir d e :: bs) s → S.exec s d = some (s', o) → J bs s' ∧ ∀ c, o = some c → P ⟨c, e⟩)
    (htext : ∀ l bs s, J (.text l :: bs) s → J bs (S.text s l).1 ∧ ∀ l', (S.text s l).2 = some l' → P ⟨l', true⟩) :
    ∀ (bs : List (Block D)) (s s' : σ) (cs : List Chunk), J bs s → eval S s bs = some (s', cs) → J [] s' ∧ ∀ c ∈ cs, P c := by
  intro bs
  induction bs with
  | nil => intro s s' cs hj h; cases h; exact ⟨hj, nofun⟩
  | cons b bs ih =>
    intro s s' cs hj h
    -- either kind of block is a step to some `s1` that keeps `J` and yields at most one chunk, then the rest
    have step : ∀ s1 (o : Option Str) (e : Bool), J bs s1 → (∀ c, o = some c → P ⟨c, e⟩) →
        ((eval S s1 bs).map fun r => (r.1, (o.map (⟨·, e⟩)).toList ++ r.2)) = some (s', cs) → J [] s' ∧ ∀ c ∈ cs, P c := by
      intro s1 o e hj1 hp h
      obtain ⟨⟨s2, cs2⟩, he, h⟩ := Option.map_eq_some_iff.1 h
      cases h
      obtain ⟨hj2, hc⟩ := ih s1 s2 cs2 hj1 he
      refine ⟨hj2, fun c hc' => (List.mem_append.1 hc').elim (fun hm => ?_) (hc c)⟩
      obtain ⟨x, hx, rfl⟩ := Option.map_eq_some_iff.1 (Option.mem_toList.1 hm)
      exact hp x hx
    cases b with
    | text l =>
      obtain ⟨hj1, hp⟩ := htext l bs s hj
      exact step _ _ _ hj1 hp (eval_text S s l bs ▸ h)
    | dir d e =>
      rw [eval_dir] at h
      obtain ⟨⟨s1, o⟩, hx, h⟩ := Option.bind_eq_some_iff.1 h
      obtain ⟨hj1, hp⟩ := hexec d e bs s s1 o hj hx
      exact step _ _ _ hj1 hp h

theorem render_closed (P : Str → Prop) (le : Str) (t : Bool) (h0 : P []) (hle : P le) (happ : ∀ a b, P a → P b → P (a ++ b)) :
    ∀ (cs : List Chunk) (p : Bool), (∀ c ∈ cs, P c.text) → P (render le t p cs) := by
  intro cs
  induction cs with
  | nil => intro p _; simp only [render]; split <;> assumption
  | cons c cs ih =>
    intro p h
    simp only [render]
    have hc := List.forall_mem_cons.1 h
    refine happ _ _ (happ _ _ ?_ hc.1) (ih _ hc.2)
    split <;> assumption

/-- `eval_ind` for a run of the machine, with a property `P` of the output that is closed under concatenation -/
theorem machine_ind (S : Sem D σ) (J : List (Block D) → σ → Prop) (P : Str → Prop)
    (hP0 : P []) (hPle : P S.le) (hPapp : ∀ a b, P a → P b → P (a ++ b))
    (hexec : ∀ d e bs s s' o, J (.dir d e :: bs) s → S.exec s d = some (s', o) → J bs s' ∧ ∀ c, o = some c → P c)
    (htext : ∀ l bs s, J (.text l :: bs) s → J bs (S.text s l).1 ∧ ∀ l', (S.text s l).2 = some l' → P l')
    (t : Bool) (s0 : σ) (lines : List Str) (h0 : ∀ bs, parse S none lines = some bs → J bs s0)
    (s : σ) (out : Str) (h : machine S t s0 lines = some (s, out)) : J [] s ∧ P out := by
  obtain ⟨bs, cs, hp, he, rfl⟩ := (machine_eq_some S t s0 lines s out).1 h
  obtain ⟨hs, hcs⟩ := eval_ind S J (fun c => P c.text) hexec htext bs s0 s cs (h0 bs hp) he
  exact ⟨hs, render_closed P S.le t hP0 hPle hPapp cs false hcs⟩

/-- a state invariant `J` along a run; `hexec` is asked only for directives that are blocks of the parse of `lines` -/
theorem machine_inv (S : Sem D σ) (J : σ → Prop) (t : Bool) (s0 : σ) (lines : List Str) (s : σ) (out : Str)
    (hexec : ∀ bs d e, parse S none lines = some bs → Block.dir d e ∈ bs → ∀ s s' o, J s → S.exec s d = some (s', o) → J s')
    (htext : ∀ s l, J s → J (S.text s l).1)
    (h0 : J s0) (h : machine S t s0 lines = some (s, out)) : J s := by
  obtain ⟨bs, cs, hp, he, _⟩ := (machine_eq_some S t s0 lines s out).1 h
  exact (eval_ind S (fun rest s => (∀ b ∈ rest, b ∈ bs) ∧ J s) (fun _ => True)
    (fun d e rest s s' o hj hx => ⟨⟨fun b hb => hj.1 b (List.mem_cons_of_mem _ hb),
      hexec bs d e hp (hj.1 _ List.mem_cons_self) s s' o hj.2 hx⟩, fun _ _ => trivial⟩)
    (fun l rest s hj => ⟨⟨fun b hb => hj.1 b (List.mem_cons_of_mem _ hb), htext s l hj.2⟩, fun _ _ => trivial⟩)
    bs s0 s cs ⟨fun _ hb => hb, h0⟩ he).1.2

/-- `Q`, `K` as in `parse_forall`; `J`: an invariant of the state; `P`: a property of the output, closed under
    concatenation -/
theorem machine_out_inv (S : Sem D σ) (J : σ → Prop) (K : D → Prop) (P Q : Str → Prop)
    (hP0 : P []) (hPle : P S.le) (hPapp : ∀ a b, P a → P b → P (a ++ b))
    (hdetK : ∀ l d, Q l → S.detect l = some d → K d)
    (haddK : ∀ d l d', K d → Q l → S.addLine d l = some d' → K d')
    (hexec : ∀ s d s' o, J s → K d → S.exec s d = some (s', o) → J s' ∧ ∀ c, o = some c → P c)
    (htext : ∀ s l, J s → Q l → J (S.text s l).1 ∧ ∀ l', (S.text s l).2 = some l' → P l')
    (t : Bool) (s0 : σ) (lines : List Str) (hQ : ∀ l ∈ lines, Q l) (hJ : J s0)
    (s : σ) (out : Str) (h : machine S t s0 lines = some (s, out)) : J s ∧ P out := by
  have := machine_ind S (fun rest s => (∀ b ∈ rest, match b with | .text l => Q l | .dir d _ => K d) ∧ J s) P
    hP0 hPle hPapp
    (fun d e rest s s' o hj hx =>
      have := hexec s d s' o hj.2 (hj.1 _ List.mem_cons_self) hx
      ⟨⟨fun b hb => hj.1 b (List.mem_cons_of_mem _ hb), this.1⟩, this.2⟩)
    (fun l rest s hj =>
      have := htext s l hj.2 (hj.1 _ List.mem_cons_self)
      ⟨⟨fun b hb => hj.1 b (List.mem_cons_of_mem _ hb), this.1⟩, this.2⟩)
    t s0 lines (fun bs hp => ⟨parse_forall S Q K hdetK haddK lines none bs hQ nofun hp, hJ⟩) s out h
  exact ⟨this.1.2, this.2⟩

/-- two optional results are related: both fail, or both succeed with related states and equal payloads -/
def OptRel {α : Type} (R : σ → σ → Prop) (x y : Option (σ × α)) : Prop :=
  (x = none ∧ y = none) ∨ ∃ a oa b ob, x = some (a, oa) ∧ y = some (b, ob) ∧ R a b ∧ oa = ob

theorem OptRel.imp {α : Type} {R R' : σ → σ → Prop} {x y : Option (σ × α)} (h : OptRel R x y)
    (hi : ∀ a oa b, x = some (a, oa) → y = some (b, oa) → R a b → R' a b) : OptRel R' x y := by
  rcases h with h | ⟨a, oa, b, ob, h1, h2, h3, h4⟩
  · exact Or.inl h
  · subst h4; exact Or.inr ⟨a, oa, b, oa, h1, h2, hi a oa b h1 h2 h3, rfl⟩

theorem OptRel.map {α β : Type} {R : σ → σ → Prop} {x y : Option (σ × α)} (f : α → β) (h : OptRel R x y) :
    OptRel R (x.map fun r => (r.1, f r.2)) (y.map fun r => (r.1, f r.2)) := by
  rcases h with ⟨rfl, rfl⟩ | ⟨a, oa, b, ob, rfl, rfl, h3, rfl⟩
  · exact Or.inl ⟨rfl, rfl⟩
  · exact Or.inr ⟨a, f oa, b, f oa, rfl, rfl, h3, rfl⟩

/-- relational evaluation: the relation may depend on the blocks still to be evaluated -/
theorem eval_rel (S : Sem D σ) (R : List (Block D) → σ → σ → Prop)
    (hexec : ∀ a b d e bs, R (.dir d e :: bs) a b → OptRel (R bs) (S.exec a d) (S.exec b d))
    (htext : ∀ a b l bs, R (.text l :: bs) a b → R bs (S.text a l).1 (S.text b l).1 ∧ (S.text a l).2 = (S.text b l).2) :
    ∀ (bs : List (Block D)) (a b : σ), R bs a b → OptRel (R []) (eval S a bs) (eval S b bs) := by
  intro bs
  induction bs with
  | nil => intro a b h; exact Or.inr ⟨a, [], b, [], rfl, rfl, h, rfl⟩
  | cons blk bs ih =>
    intro a b h
    cases blk with
    | text l =>
      obtain ⟨hr, ho⟩ := htext a b l bs h
      rw [eval_text, eval_text, ← ho]
      exact (ih _ _ hr).map _
    | dir d e =>
      rw [eval_dir, eval_dir]
      rcases hexec a b d e bs h with ⟨h1, h2⟩ | ⟨a1, oa, b1, ob, h1, h2, h3, rfl⟩ <;> rw [h1, h2]
      · exact Or.inl ⟨rfl, rfl⟩
      · exact (ih a1 b1 h3).map _

/-- relational version for the streaming machine (through the refinement theorem) -/
theorem machine_rel (S : Sem D σ) (R : List (Block D) → σ → σ → Prop) (t : Bool) (lines : List Str)
    (hexec : ∀ a b d e bs, R (.dir d e :: bs) a b → OptRel (R bs) (S.exec a d) (S.exec b d))
    (htext : ∀ a b l bs, R (.text l :: bs) a b → R bs (S.text a l).1 (S.text b l).1 ∧ (S.text a l).2 = (S.text b l).2)
    (a b : σ) (h : ∀ bs, parse S none lines = some bs → R bs a b) :
    OptRel (R []) (machine S t a lines) (machine S t b lines) := by
  rw [machine_eq_bind, machine_eq_bind]
  cases hp : parse S none lines with
  | none => exact Or.inl ⟨rfl, rfl⟩
  | some bs => exact (eval_rel S R hexec htext bs a b (h bs hp)).map _

/-- whether a line ending is owed after the chunks -/
def owed : Bool → List Chunk → Bool
  | p, [] => p
  | _, c :: cs => owed c.nlAfter cs

theorem render_trailing (le : Str) (t : Bool) : ∀ (cs : List Chunk) (p : Bool),
    render le t p cs = render le false p cs ++ (if owed p cs && t then le else []) := by
  intro cs
  induction cs with
  | nil => intro p; simp [render, owed]
  | cons c cs ih => intro p; rw [render, render, owed, ih]; simp only [List.append_assoc]

/-- C13: the two settings succeed/fail together, end in the same state (hence the same temp files,
    executed commands, tags) and the outputs are identical except for at most one final line ending. -/
theorem trailing_only_final (S : Sem D σ) (s0 : σ) (lines : List Str) :
    (machine S true s0 lines = none ∧ machine S false s0 lines = none) ∨
    (∃ s out, machine S false s0 lines = some (s, out) ∧
      (machine S true s0 lines = some (s, out) ∨ machine S true s0 lines = some (s, out ++ S.le))) := by
  simp only [machine_eq_bind]
  cases parse S none lines with
  | none => exact Or.inl ⟨rfl, rfl⟩
  | some bs =>
    simp only [Option.bind_some]
    cases eval S s0 bs with
    | none => exact Or.inl ⟨rfl, rfl⟩
    | some r =>
      refine Or.inr ⟨r.1, _, rfl, ?_⟩
      simp only [Option.map_some, render_trailing S.le true r.2]
      cases owed false r.2 <;> simp

/-- text emitted by a run of ordinary lines when `p` says a line ending is owed -/
def body (le : Str) : Bool → List Str → Str
  | _, [] => []
  | p, l :: ls => (if p then le else []) ++ l ++ body le true ls

theorem body_true (le : Str) (ls : List Str) : body le true ls = (ls.map (le ++ ·)).flatten := by
  induction ls with
  | nil => rfl
  | cons l ls ih => simp [body, ih]

theorem body_false (le : Str) (ls : List Str) : body le false ls = Txt.joinWith le ls := by
  cases ls with
  | nil => rfl
  | cons l ls =>
    simp only [body, Bool.false_eq_true, if_false, List.nil_append]
    induction ls generalizing l with
    | nil => simp [body, Txt.joinWith]
    | cons l2 ls ih =>
      simp only [body, if_true, Txt.joinWith]
      rw [← ih l2]; simp [List.append_assoc]

theorem spec_plain (S : Sem D σ) (s0 : σ) (lines : List Str)
    (h1 : ∀ l ∈ lines, S.detect l = none) (h2 : ∀ l ∈ lines, S.text s0 l = (s0, some l)) :
    parse S none lines = some (lines.map .text) ∧ eval S s0 (lines.map .text) = some (s0, lines.map (⟨·, true⟩)) := by
  induction lines with
  | nil => exact ⟨rfl, rfl⟩
  | cons l ls ih =>
    obtain ⟨ih1, ih2⟩ := ih (fun x hx => h1 x (List.mem_cons_of_mem _ hx)) (fun x hx => h2 x (List.mem_cons_of_mem _ hx))
    simp [parse, eval, h1 l List.mem_cons_self, h2 l List.mem_cons_self, ih1, ih2]

theorem render_plain (le : Str) : ∀ (lines : List Str) (p : Bool),
    render le false p (lines.map (⟨·, true⟩)) = body le p lines ∧ owed p (lines.map (⟨·, true⟩)) = (p || !lines.isEmpty) := by
  intro lines
  induction lines with
  | nil => intro p; simp [render, body, owed]
  | cons l ls ih => intro p; simp [render, body, owed, ih]

/-- C16: a source without directive lines (and with no tag to substitute) is reproduced line for
    line: lines joined by the line ending, plus the final one iff the trailing option is on. -/
theorem passthrough (S : Sem D σ) (t : Bool) (s0 : σ) (lines : List Str)
    (h1 : ∀ l ∈ lines, S.detect l = none) (h2 : ∀ l ∈ lines, S.text s0 l = (s0, some l)) :
    machine S t s0 lines =
      some (s0, Txt.joinWith S.le lines ++ (if !lines.isEmpty && t then S.le else [])) := by
  obtain ⟨hp, he⟩ := spec_plain S s0 lines h1 h2
  simp [machine_eq_bind, hp, he, render_trailing S.le t, (render_plain S.le lines false).1, (render_plain S.le lines false).2,
    body_false]

theorem eval_isSome (S : Sem D σ) (hexec : ∀ s d, (S.exec s d).isSome) :
    ∀ (bs : List (Block D)) (s : σ), (eval S s bs).isSome := by
  intro bs
  induction bs with
  | nil => intro s; rfl
  | cons b bs ih =>
    intro s
    cases b with
    | text l => rw [eval_text]; simpa using ih _
    | dir d e =>
      obtain ⟨r, hx⟩ := Option.isSome_iff_exists.1 (hexec s d)
      rw [eval_dir, hx]; simpa using ih _

theorem machine_total (S : Sem D σ) (hbad : ∀ l d, S.detect l = some d → S.badStart d = false)
    (hexec : ∀ s d, (S.exec s d).isSome) (t : Bool) (s0 : σ) (lines : List Str) : (machine S t s0 lines).isSome := by
  obtain ⟨bs, hp⟩ := Option.isSome_iff_exists.1 (parse_isSome S hbad lines none)
  obtain ⟨r, he⟩ := Option.isSome_iff_exists.1 (eval_isSome S hexec bs s0)
  simp [machine_eq_bind, hp, he]

/-- a source that is one directive with its continuation lines: executed once, at the end of the file -/
theorem machine_single (S : Sem D σ) (t : Bool) (s0 s' : σ) (l0 : Str) (ls : List Str) (d0 d : D) (c : Str)
    (hd : S.detect l0 = some d0) (hb : S.badStart d0 = false)
    (hc : feedAll S ⟨some d0, s0, false, []⟩ ls = some ⟨some d, s0, false, []⟩)
    (hex : S.exec s0 d = some (s', some c)) :
    machine S t s0 (l0 :: ls) = some (s', c ++ (if t then S.le else [])) := by
  simp [machine, feedAll, feed, feedFresh, hd, hb, hc, finish, execD, hex, emit]

theorem feedAll_append (S : Sem D σ) (m : MSt D σ) (ls : List Str) (l : Str) :
    feedAll S m (ls ++ [l]) = (feedAll S m ls).bind (fun m' => feed S m' l) := by
  induction ls generalizing m with
  | nil => simp only [List.nil_append, feedAll, Option.bind_some]; cases feed S m l <;> rfl
  | cons x xs ih => rw [List.cons_append, feedAll_cons, feedAll_cons, Option.bind_assoc]; simp only [ih]

theorem execD_cur (S : Sem D σ) {m m' : MSt D σ} {d : D} {hasTail : Bool} (h : execD S m d hasTail = some m') :
    m'.cur = none := by
  unfold execD at h
  split at h <;> cases h <;> rfl

theorem feed_text_line (S : Sem D σ) (m m1 : MSt D σ) (l : Str) (hd : S.detect l = none)
    (hcont : ∀ d, S.addLine d l = none) (htext : ∀ s, ∃ l', (S.text s l).2 = some l')
    (h : feed S m l = some m1) : m1.cur = none ∧ m1.pending = true ∧ ∃ pre l', m1.out = pre ++ l' ∧ ∃ s, (S.text s l).2 = some l' := by
  have fresh : ∀ m0 : MSt D σ, m0.cur = none → feedFresh S m0 l = some m1 →
      m1.cur = none ∧ m1.pending = true ∧ ∃ pre l', m1.out = pre ++ l' ∧ ∃ s, (S.text s l).2 = some l' := by
    intro m0 hc hf
    obtain ⟨l', hl'⟩ := htext m0.st
    simp only [feedFresh, hd] at hf
    rcases hx : S.text m0.st l with ⟨st', o⟩
    rw [hx] at hf hl'
    cases hl'; cases hf
    exact ⟨hc, rfl, _, l', rfl, m0.st, by rw [hx]⟩
  unfold feed at h
  cases hc : m.cur with
  | none => rw [hc] at h; exact fresh m hc h
  | some d =>
    -- the open directive is executed first, which closes it
    simp only [hc, hcont d] at h
    cases hex : execD S m d true with
    | none => rw [hex] at h; cases h
    | some m2 => rw [hex] at h; exact fresh m2 (execD_cur S hex) h

/-- C13: when the source ends with an ordinary text line, the output without the option ends with
    that line (as written after tag substitution) and the option adds exactly one line ending -/
theorem trailing_text_last (S : Sem D σ) (s0 : σ) (ls : List Str) (l : Str) (hd : S.detect l = none)
    (hcont : ∀ d, S.addLine d l = none) (htext : ∀ s, ∃ l', (S.text s l).2 = some l')
    (s : σ) (out : Str) (h : machine S false s0 (ls ++ [l]) = some (s, out)) :
    machine S true s0 (ls ++ [l]) = some (s, out ++ S.le) ∧
    ∃ pre l', out = pre ++ l' ∧ ∃ s', (S.text s' l).2 = some l' := by
  rw [machine_def, feedAll_append, Option.bind_assoc] at h ⊢
  obtain ⟨m, hf, h⟩ := Option.bind_eq_some_iff.1 h
  obtain ⟨m1, hl, h⟩ := Option.bind_eq_some_iff.1 h
  obtain ⟨hc, hp, pre, l', ho, hs⟩ := feed_text_line S m m1 l hd hcont htext hl
  -- no directive is open and a line ending is owed: `finish` appends it iff the option is on
  simp only [finish, hc, hp, Bool.true_and, Bool.false_eq_true, if_false, List.append_nil, Option.some.injEq, Prod.mk.injEq] at h
  obtain ⟨rfl, rfl⟩ := h
  exact ⟨by simp [hf, hl, finish, hc, hp], pre, l', ho, hs⟩

end Refine
