import Txtpp.Lemmas.OutputConf
import Txtpp.Lemmas.ByteEndings
import Txtpp.Lemmas.TouchScope
/-! C12 for the file-system model: if every file of the tree has CR only before LF and commands print such text, the
    same holds after any pass / any run, and the output a pass writes uses one line ending. What a pass writes
    depends on what it reads from the tree, so `CrFS` is no instance of `FsClosed`: it is carried through the line
    loop as the world invariant of `output_conf_on` (`fileWorld_crOn`). The hypothesis `CmdCr` on commands follows
    from a static condition on the command table (`VocabCr`, `cmdCr_of_vocab`): CR-clean literals and file contents
    only, nothing that depends on a path. -/
namespace Txt

/-- every file of the tree has every byte 13 followed by byte 10 -/
def CrFS (fs : FS) : Prop := ∀ p b, fs.file? p = some b → crB b.data.toList = true

/-- over a CR-clean tree, commands print text in which CR occurs only before LF (a command may print file contents,
    hence the premise `CrFS fs`) -/
def CmdCr (cfg : Cfg) : Prop :=
  ∀ wd src fs cmd out fs', CrFS fs → (fileWorld cfg wd src).run fs cmd = (some out, fs') → crDom out = true

/-- `CmdCr`, premise `CrFS fs` included, for the commands of one source: run from directory `wd` with `src` as the
    source name -/
def CmdCrAt (cfg : Cfg) (wd : Path) (src : Str) : Prop :=
  ∀ fs cmd out fs', CrFS fs → (fileWorld cfg wd src).run fs cmd = (some out, fs') → crDom out = true

theorem CrFS.write (fs : FS) (p : Path) (x : ByteArray) (h : CrFS fs) (hx : crB x.data.toList = true) : CrFS (fs.write p x) := by
  intro q b hq
  by_cases hqp : q = p
  · subst hqp; rw [file?_write_same] at hq; cases hq; exact hx
  · rw [file?_write_other fs p q x hqp] at hq; exact h q b hq

theorem CrFS.remove (fs : FS) (p : Path) (h : CrFS fs) : CrFS (fs.remove p) := by
  intro q b hq
  by_cases hqp : q = p
  · subst hqp; rw [file?_remove_same] at hq; cases hq
  · rw [file?_remove_other fs p q hqp] at hq; exact h q b hq

theorem CrFS.writtenAt {p : Path} {B : ByteArray → Prop} {fs fs' : FS} (hB : ∀ b, B b → crB b.data.toList = true)
    (hw : WrittenAt p B fs fs') (h : CrFS fs) : CrFS fs' := by
  induction hw with
  | same => exact h
  | write b hb _ ih => exact CrFS.write _ p b ih (hB b hb)

theorem CrFS.sinkStart {mode : Mode} {fs fs1 : FS} {o : Path} (h : CrFS fs) (hs : sinkStart mode fs o = some fs1) : CrFS fs1 := by
  rcases sinkStart_cases mode fs fs1 o hs with rfl | ⟨_, rfl⟩ | ⟨_, rfl⟩
  · exact h
  · exact CrFS.write fs o _ h crB_empty
  · exact CrFS.remove fs o h

/-- the world of a source over a CR-clean tree, with commands that print CR-clean text: included files are files of
    the tree, a command changes the marker log only, a temp body with one line ending is CR-clean -/
theorem fileWorld_crOn {cfg : Cfg} {wd : Path} {src : Str} (hcmd : CmdCrAt cfg wd src) {le : Str} (hle : crDom le = true) :
    WorldCrOn (fileWorld cfg wd src) CrFS le where
  inc w a c hw hr := by
    simp only [fileWorld] at hr
    split at hr
    · rename_i p _
      split at hr
      · rename_i b hb
        exact decode_crDom b c hr (hw p b hb)
      · cases hr
    · cases hr
  run w c out w' hw hr := by
    obtain ⟨l, hl⟩ := fileWorld_run_fs cfg wd src w c
    rw [hr] at hl
    exact ⟨hcmd w c out w' hw hr, (show w' = _ from hl) ▸ (hw : CrFS { w with log := l })⟩
  writeTemp w t c w' hw hc hwt := by
    obtain ⟨_, _, _, hwr, _⟩ := writeTemp_cases cfg _ _ w w' t c hwt
    refine CrFS.writtenAt (fun b hb => ?_) hwr hw
    rcases hb with rfl | rfl
    · exact crB_empty
    · exact encode_crB c (LEonly_crDom hle hc)
  removeTemp w t w' hw hr := by
    rcases removeTemp_cases cfg _ _ w w' t hr with rfl | ⟨p, _, rfl⟩
    · exact hw
    · exact CrFS.remove w p hw

theorem srcPass_crfs (cfg : Cfg) (fs : FS) (src : Path) (hcmd : CmdCrAt cfg src.dropLast (joinPath src)) (first : Bool) (content : ByteArray) (fs1 : FS)
    (h : CrFS fs) (hfile : fs.file? src = some content) (h1 : CrFS fs1) :
    PassPost CrFS (srcPass cfg src first content fs1) ∧
    ∀ out fs2, srcPass cfg src first content fs1 = .ok out fs2 → LEonly (sniffLE content.toList) out :=
  output_conf_on (fileWorld_crOn hcmd sniffLE_crDom) cfg.mode first cfg.trailing fs1 h1 _
    (source_lines_clean _ (by rw [ByteArray.toList_eq]; exact h src content hfile)) _

/-- one `preprocess` call keeps the tree CR-clean, in every mode and whatever the outcome -/
theorem runPass_crfs (cfg : Cfg) (fs : FS) (src : Path) (hcmd : CmdCrAt cfg src.dropLast (joinPath src)) (first : Bool) (h : CrFS fs) :
    CrFS (runPass cfg fs src first).2 := by
  rcases runPass_cases cfg fs src first with e | ⟨content, o, fs1, hfile, _, hstart, e⟩ <;> rw [e]
  · exact h
  · have h1 := CrFS.sinkStart h hstart
    obtain ⟨hpost, hout⟩ := srcPass_crfs cfg fs src hcmd first content fs1 h hfile h1
    unfold closePass
    split
    · exact h1
    · rename_i hr; rw [hr] at hpost; exact hpost
    · rename_i out fs2 hr
      rw [hr] at hpost
      rcases sinkEnd_cases cfg.mode fs2 o (encodeUtf8 out) with e | ⟨_, e⟩ <;> rw [e]
      · exact hpost
      · exact CrFS.write fs2 o _ hpost (encode_crB out (LEonly_crDom sniffLE_crDom (hout out fs2 hr)))

/-- C12, whole run: if every file of the tree has CR only before LF and commands print such text,
    the same is true of the tree after the run - every generated file included - in every mode -/
theorem runProject_crfs (cfg : Cfg) (hcmd : CmdCr cfg) (fs : FS) (inputs : List Str) (h : CrFS fs) :
    CrFS (runProject cfg fs inputs).2 :=
  runProject_inv cfg CrFS (fun fs1 src first h1 => runPass_crfs cfg fs1 src (hcmd _ _) first h1) fs inputs h

/-- the vocabulary prints only CR-clean literals and file contents (no path-dependent output) -/
def VocabCr (cfg : Cfg) : Prop :=
  ∀ kv ∈ cfg.cmds, ∀ ka ∈ kv.2, (ka.1 = "lit".toList → crDom ka.2 = true) ∧ ka.1 ≠ "pwd".toList ∧ ka.1 ≠ "file".toList

theorem runAct_crB (cfg : Cfg) (wd : Path) (src : Str) (fs : FS) (k a : Str) (hfs : CrFS fs)
    (hlit : k = "lit".toList → crDom a = true) (hpwd : k ≠ "pwd".toList) (hfile : k ≠ "file".toList) :
    crB (runAct cfg wd src fs k a).1.data.toList = true := by
  -- case1 `lit`: the literal; case2 `cat`: a file of the tree; case6 `pwd`, case7 `file`: excluded; the others print nothing
  fun_cases runAct cfg wd src fs k a
  case case1 h => exact encode_crB a (hlit h)
  case case2 _ _ p _ b hb => exact hfs p b hb
  case case6 h => exact absurd h hpwd
  case case7 h => exact absurd h hfile
  all_goals rfl

theorem runActs_crB (cfg : Cfg) (wd : Path) (src : Str) (acts : List (Str × Str)) (fs : FS) (out : ByteArray) (ok : Bool)
    (hfs : CrFS fs) (ho : crB out.data.toList = true)
    (hv : ∀ ka ∈ acts, (ka.1 = "lit".toList → crDom ka.2 = true) ∧ ka.1 ≠ "pwd".toList ∧ ka.1 ≠ "file".toList) :
    crB (runActs cfg wd src fs acts out ok).1.data.toList = true := by
  induction acts generalizing fs out ok with
  | nil => exact ho
  | cons ka rest ih =>
    obtain ⟨k, a⟩ := ka
    obtain ⟨h1, hrest⟩ := List.forall_mem_cons.1 hv
    rw [runActs_cons]
    refine ih _ _ _ (by rw [runAct_fs]; exact hfs) ?_ hrest
    rw [ByteArray.data_append, Array.toList_append]
    exact crB_append _ _ ho (runAct_crB cfg wd src fs k a hfs h1.1 h1.2.1 h1.2.2)

theorem cmdCr_of_vocab (cfg : Cfg) (hv : VocabCr cfg) : CmdCr cfg := by
  intro wd src fs cmd out fs' hfs hr
  simp only [fileWorld] at hr
  split at hr
  · cases hr
  · rename_i acts hf
    have hb := runActs_crB cfg wd src acts fs ByteArray.empty true hfs rfl (hv _ (List.mem_of_find?_eq_some hf))
    split at hr
    · exact decode_crDom _ out (Prod.mk.inj hr).1 hb
    · cases hr

end Txt
