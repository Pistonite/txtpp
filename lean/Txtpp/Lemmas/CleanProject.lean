import Txtpp.Lemmas.CleanRestore
import Txtpp.Lemmas.Interning
import Txtpp.Lemmas.Hermetic
/-! Whole-project clean (C07): a clean run only removes, and after an `ok` run the output and every temp target of every resolved source is gone. -/
namespace Txt

/-- every path holds what it held in `fs0`, or nothing; same directories -/
def OnlyRemoved (fs0 fs : FS) : Prop := fs.dirs = fs0.dirs ∧ ∀ q, fs.file? q = none ∨ fs.file? q = fs0.file? q

theorem OnlyRemoved.refl (fs : FS) : OnlyRemoved fs fs := ⟨rfl, fun _ => Or.inr rfl⟩

theorem OnlyRemoved.trans {a b c : FS} (h1 : OnlyRemoved a b) (h2 : OnlyRemoved b c) : OnlyRemoved a c := by
  refine ⟨h2.1.trans h1.1, fun q => ?_⟩
  rcases h2.2 q with h | h
  · exact Or.inl h
  · rw [h]; exact h1.2 q

theorem onlyRemoved_remove (fs : FS) (p : Path) : OnlyRemoved fs (fs.remove p) :=
  ⟨rfl, fun q => if hq : q = p then Or.inl (hq ▸ file?_remove_same fs p) else Or.inr (file?_remove_other fs p q hq)⟩

theorem onlyRemoved_closed {mode : Mode} (hm : mode = .clean) (A : Path → Prop) (fs0 : FS) :
    FsClosed mode A (OnlyRemoved fs0) :=
  ⟨fun h => absurd hm h, fun _ fs p _ h => h.trans (onlyRemoved_remove fs p), fun h => absurd hm h⟩

theorem runPass_clean_onlyRemoves (cfg : Cfg) (hm : cfg.mode = .clean) (fs : FS) (src : Path) (first : Bool) :
    OnlyRemoved fs (runPass cfg fs src first).2 :=
  runPass_closed cfg fs src first _ (onlyRemoved_closed hm _ fs) (OnlyRemoved.refl fs)

theorem runPass_clean_no_deps (cfg : Cfg) (hm : cfg.mode = .clean) (fs : FS) (src : Path) (first : Bool) (deps : List Str) :
    (runPass cfg fs src first).1 ≠ .hasDeps deps := by
  rcases runPass_cases cfg fs src first with e | ⟨content, o, fs1, _, _, _, e⟩ <;> rw [e]
  · nofun
  · cases hro : (decodeLines (byteLines content.toList)).2 with
    | false => simp only [srcPass, hro, ppPass_unreadable]; nofun
    | true =>
      obtain ⟨out, w', h⟩ := clean_pass_ok (fileWorld cfg src.dropLast (joinPath src)) (sniffLE content.toList) first cfg.trailing fs1
        (decodeLines (byteLines content.toList)).1
      simp only [srcPass, hro, hm, h, closePass, sinkEnd]
      nofun

theorem OnlyRemoved.absent {a b : FS} (h : OnlyRemoved a b) {p : Path} (ha : a.file? p = none) : b.file? p = none :=
  (h.2 p).elim id (·.trans ha)

theorem PassAllowed.of_onlyRemoved {cfg : Cfg} {fs0 fs : FS} {src p : Path} {content : ByteArray} (hor : OnlyRemoved fs0 fs)
    (hfile : fs.file? src = some content) (hp : PassAllowed cfg fs0 src p) : PassAllowed cfg fs src p := by
  obtain ⟨c0, hc0, hsc⟩ := hp
  obtain rfl : content = c0 := by
    rcases hor.2 src with hn | he
    · rw [hfile] at hn; cases hn
    · rw [hfile, hc0] at he; exact Option.some.inj he
  exact ⟨content, hfile, Or.imp_right (TempTarget_dirs cfg fs fs0 _ _ p hor.1.symm) hsc⟩

theorem runLoop_clean_removes (cfg : Cfg) (hm : cfg.mode = .clean) (fs0 : FS) : ∀ (fuel : Nat) (s : PSt),
    OnlyRemoved fs0 s.fs → (runLoop cfg fuel s).1 = .ok →
    ∀ f first, Coord.Task.pp f first ∈ s.st.pool → ∀ p, PassAllowed cfg fs0 (s.names.getD f []) p →
      (runLoop cfg fuel s).2.file? p = none := by
  intro fuel
  induction fuel with
  | zero => intro s _ hok; cases hok
  | succ fuel ih =>
    intro s hor hok f first hmem p hp
    cases hpool : s.st.pool with
    | nil => rw [hpool] at hmem; cases hmem
    | cons t rest =>
      cases t with
      | pp f0 first0 =>
        rw [runLoop_cons hpool rfl] at hok ⊢
        cases hoc : (runPass cfg s.fs (s.names.getD f0 []) first0).1 with
        | err => rw [hoc] at hok; cases hok
        | hasDeps deps => exact absurd hoc (runPass_clean_no_deps cfg hm _ _ _ deps)
        | ok =>
          rw [hoc] at hok
          rcases deliver_ok s.names { s.st with pool := rest } f0 with ⟨v, hv, hd⟩ | ⟨st', hh, hd⟩ <;> rw [hd] at hok ⊢
          · exact absurd hok hv
          · rw [hpool] at hmem
            rcases List.mem_cons.1 hmem with heq | hrest
            · -- the task that was just run: its scope is absent now, and nothing is created afterwards
              cases heq
              have hpass : runPass cfg s.fs (s.names.getD f []) first = (.ok, _) := Prod.ext hoc rfl
              obtain ⟨content, o, _, _, _, hfile, _⟩ := runPass_ok_inv cfg s.fs _ first _ hpass
              exact (runLoop_inv cfg (OnlyRemoved _) (fun w src fi h => h.trans (runPass_clean_onlyRemoves cfg hm w src fi))
                fuel ⟨_, _, _⟩ (OnlyRemoved.refl _)).absent
                (clean_runPass_removes cfg hm s.fs _ _ first hpass p (hp.of_onlyRemoved hor hfile))
            · exact ih _ (hor.trans (runPass_clean_onlyRemoves cfg hm s.fs _ first0)) hok f first
                (Coord.handle_pool_mono hh _ hrest) p hp

/-- whole project (C07): after a clean run that ends `ok`, for every source the inputs resolve to
    (named, or found by the directory scans) neither its output nor any temp target of its text exists -/
theorem clean_project_removes (cfg : Cfg) (hm : cfg.mode = .clean) (fs : FS) (inputs : List Str)
    (hok : (runProject cfg fs inputs).1 = .ok) (files dirs : List Path)
    (hres : resolveInputs cfg fs inputs = some (files, dirs)) (src : Path)
    (hsrc : src ∈ files ++ scanAll fs cfg.recursive (fs.dirs.length + dirs.length + 2) dirs [])
    (p : Path) (hp : PassAllowed cfg fs src p) :
    (runProject cfg fs inputs).2.file? p = none := by
  unfold runProject at hok ⊢
  rw [hres] at hok ⊢
  simp only at hok ⊢
  obtain ⟨k, hk, hget⟩ := List.getElem_of_mem hsrc
  revert hok
  generalize files ++ scanAll fs cfg.recursive (fs.dirs.length + dirs.length + 2) dirs [] = ps at hk hget ⊢
  obtain ⟨hk', hname, _⟩ := (indexAll_spec ps []).2.2.2 k hk
  exact fun hok => runLoop_clean_removes cfg hm fs _ ⟨_, _, fs⟩ (OnlyRemoved.refl fs) hok _ true
    (Coord.init_pool _ _ (List.getElem_mem hk')) p (by rw [hname, hget]; exact hp)

end Txt
