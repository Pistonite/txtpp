import Txtpp.Lemmas.Term
/-! Executions of the coordinator with *arbitrary, history-dependent* task results (what the concrete
    preprocessor delivers depends on the file system at that moment) are executions of the abstract
    coordinator for some static world: every task is delivered at most once, so the results seen so
    far can be tabulated. All theorems about `Reach w inputs s` therefore apply to the concrete run. -/
namespace Coord

/-- the result fits the task: a final pass never reports dependencies, a dependency list is never empty -/
def WellTyped : Task → Res → Prop
  | .pp f _, .ok g => g = f
  | .pp f true, .hasDeps g deps => g = f ∧ deps ≠ []
  | _, _ => False

/-- executions with free results; the history records what was delivered -/
inductive FReach (inputs : List File) : St → List (Task × Res) → Prop where
  | init : FReach inputs (init inputs) []
  | step (s s' : St) (hist : List (Task × Res)) (t : Task) (r : Res) : FReach inputs s hist → t ∈ s.pool → WellTyped t r →
      handle { s with pool := s.pool.erase t } r = .cont s' → FReach inputs s' (hist ++ [(t, r)])

theorem freach_replayN (w : World) (inputs : List File) (s : St) (hist : List (Task × Res)) (h : FReach inputs s hist)
    (hw : ∀ t r, (t, r) ∈ hist → w.result t = r) : ReachN w inputs hist.length s := by
  induction h with
  | init => exact ReachN.init
  | step s s' hist t r _ ht _ hc ih =>
    have hr := ih (fun t' r' hm => hw t' r' (List.mem_append_left _ hm))
    have : w.result t = r := hw t r (List.mem_append_right _ (by simp))
    rw [List.length_append]
    exact ReachN.step _ s s' hr (Step.deliver s s' t ht (by rw [this]; exact hc))

theorem freach_replay (w : World) (inputs : List File) (s : St) (hist : List (Task × Res)) (h : FReach inputs s hist)
    (hw : ∀ t r, (t, r) ∈ hist → w.result t = r) : Reach w inputs s :=
  reachN_reach w inputs _ s (freach_replayN w inputs s hist h hw)

/-- the world with the result `r` of `t` tabulated. A first pass reports `ok` only when the file has no dependency and
    neither flag is set (`World.result`), hence the first case. The last case is never met: a step records a
    well-typed result whose delivery continues, and `err` ends the run. -/
def setWorld (w : World) (t : Task) (r : Res) : World :=
  match t, r with
  | .pp f true, .ok _ => { deps := upd w.deps f [], failFirst := upd w.failFirst f false, failFinal := upd w.failFinal f false }
  | .pp f true, .hasDeps _ deps => { w with deps := upd w.deps f deps, failFirst := upd w.failFirst f false }
  | .pp f false, .ok _ => { w with failFinal := upd w.failFinal f false }
  | _, _ => w

theorem setWorld_result (w : World) (t : Task) (r : Res) (h : WellTyped t r) : (setWorld w t r).result t = r := by
  obtain ⟨f, b⟩ := t
  cases b <;> cases r <;> simp [WellTyped] at h <;> simp [setWorld, World.result, h]

theorem setWorld_other (w : World) (f g : File) (b c : Bool) (r : Res) (hne : g ≠ f) :
    (setWorld w (.pp f b) r).result (.pp g c) = w.result (.pp g c) := by
  cases b <;> cases r <;> cases c <;> simp only [setWorld, World.result, upd_other, hne, ne_eq, not_false_eq_true] <;> rfl

/-- what the construction of the world needs of the history (`setWorld_agrees`). `first`, `final`: the result of a
    task in flight was not delivered before; `firstOk`: the first pass of a file whose final pass is in flight
    reported dependencies. -/
structure HistInv (s : St) (hist : List (Task × Res)) : Prop where
  typed : ∀ t r, (t, r) ∈ hist → WellTyped t r
  first : ∀ f r, (Task.pp f true, r) ∈ hist → f ∈ s.seen ∧ Task.pp f true ∉ s.pool
  final : ∀ f r, (Task.pp f false, r) ∈ hist → f ∈ s.dm.fin
  firstOk : ∀ f g, (Task.pp f true, Res.ok g) ∈ hist → f ∈ s.dm.fin
  finHist : ∀ f ∈ s.dm.fin, ∃ b, (Task.pp f b, Res.ok f) ∈ hist

/-- recording the result of a task that is in the pool does not disturb what the world says about the
    tasks delivered earlier: nothing about that file's pass was delivered before -/
theorem setWorld_agrees (w : World) (s : St) (hist : List (Task × Res))
    (hw : ∀ t r, (t, r) ∈ hist → w.result t = r) (hH : HistInv s hist) (hI : Inv w s)
    (t : Task) (r : Res) (ht : t ∈ s.pool) (hty : WellTyped t r) :
    ∀ t' r', (t', r') ∈ hist → (setWorld w t r).result t' = r' := by
  intro t' r' hm
  rw [← hw t' r' hm]
  obtain ⟨f, b⟩ := t; obtain ⟨g, c⟩ := t'
  by_cases hgf : g = f
  · -- an earlier delivery for the file of `t`: its first pass reported dependencies, and `t` is its final pass
    subst hgf
    cases c with
    | false => exact absurd (hH.final g r' hm) (hI.task_unfinished ht)
    | true =>
      cases b with
      | true => exact absurd ht (hH.first g r' hm).2
      | false =>
        have hty' := hH.typed _ _ hm
        cases r' with
        | err => simp [WellTyped] at hty'
        | ok a => exact absurd (hH.firstOk g a hm) (hI.task_unfinished ht)
        | hasDeps a deps =>
          -- with a non-empty dependency list the first pass does not look at `failFinal`, all that `setWorld` changes
          obtain ⟨e, _, hdeps⟩ := result_hasDeps (hw _ _ hm)
          cases e
          cases r <;> simp only [setWorld, World.result, hdeps, if_false] <;> rfl
  · exact setWorld_other w f g b c r hgf

/-- every execution with free results is an execution of a static world that tabulates exactly the
    results that were delivered -/
theorem freach_world (inputs : List File) (s : St) (hist : List (Task × Res)) (h : FReach inputs s hist) :
    ∃ w : World, (∀ t r, (t, r) ∈ hist → w.result t = r) ∧ HistInv s hist := by
  induction h with
  | init =>
    exact ⟨⟨fun _ => [], fun _ => false, fun _ => false⟩, by simp, by constructor <;> simp [init_fin]⟩
  | step s s' hist t r hprev ht hty hc ih =>
    obtain ⟨w, hw, hH⟩ := ih
    have hR : Reach w inputs s := freach_replay w inputs s hist hprev hw
    have hI : Inv w s := reach_inv w inputs s hR
    have hseen : ∀ x ∈ s.seen, x ∈ s'.seen := (handle_seen_mono hc :)
    have hfin : ∀ x ∈ s.dm.fin, x ∈ s'.dm.fin := (handle_fin_mono hc :)
    cases t with
    | pp f b =>
      have hfseen : f ∈ s.seen := hI.poolSeen f b ht
      have hsnoc : ∀ {t' r'}, (t', r') ∈ hist ++ [(Task.pp f b, r)] → (t', r') ∈ hist ∨ (t' = .pp f b ∧ r' = r) := by
        intro t' r' hm; simpa using hm
      have hok : ∀ a, r = .ok a → f ∈ s'.dm.fin := by
        rintro a rfl; cases (hty : a = f); rw [handle_ok_fin hc]; exact List.mem_cons_self
      have hH' : HistInv s' (hist ++ [(Task.pp f b, r)]) := by
        refine ⟨fun t' r' hm => ?_, fun g r' hm => ?_, fun g r' hm => ?_, fun g a hm => ?_, fun g hg => ?_⟩
        · rcases hsnoc hm with hm | ⟨rfl, rfl⟩
          · exact hH.typed t' r' hm
          · exact hty
        · have key : g ∈ s.seen ∧ Task.pp g true ∉ s.pool.erase (Task.pp f b) := by
            rcases hsnoc hm with hm | ⟨e, _⟩
            · exact ⟨(hH.first g r' hm).1, fun hc' => (hH.first g r' hm).2 (List.mem_of_mem_erase hc')⟩
            · cases e; exact ⟨hfseen, fun hc' => (hI.poolND.mem_erase_iff.1 hc').1 rfl⟩
          exact ⟨hseen g key.1, handle_pool_first hc key.1 key.2⟩
        · rcases hsnoc hm with hm | ⟨e, rfl⟩
          · exact hfin g (hH.final g r' hm)
          · cases e
            -- a final pass is well typed only with `ok`
            cases r' with
            | ok a => exact hok a rfl
            | err => simp [WellTyped] at hty
            | hasDeps a deps => simp [WellTyped] at hty
        · rcases hsnoc hm with hm | ⟨e, e'⟩
          · exact hfin g (hH.firstOk g a hm)
          · cases e; exact hok a e'.symm
        · rcases handle_fin hc g hg with hg | rfl
          · exact (hH.finHist g hg).imp fun b' hb' => List.mem_append_left _ hb'
          · cases (hty : g = f); exact ⟨b, List.mem_append_right _ (List.mem_singleton.2 rfl)⟩
      refine ⟨setWorld w (Task.pp f b) r, ?_, hH'⟩
      intro t' r' hm
      rcases hsnoc hm with hm | ⟨rfl, rfl⟩
      · exact setWorld_agrees w s hist hw hH hI (Task.pp f b) r ht hty t' r' hm
      · exact setWorld_result w _ _ hty

/-- the static world of an execution with free results, with all that is known about it -/
theorem freach_static (inputs : List File) (s : St) (hist : List (Task × Res)) (h : FReach inputs s hist) :
    ∃ w : World, (∀ t r, (t, r) ∈ hist → w.result t = r) ∧ HistInv s hist ∧ ReachN w inputs hist.length s ∧
      Reach w inputs s ∧ Inv w s := by
  obtain ⟨w, hw, hH⟩ := freach_world inputs s hist h
  have hN := freach_replayN w inputs s hist h hw
  have hR := reachN_reach w inputs _ s hN
  exact ⟨w, hw, hH, hN, hR, reach_inv w inputs s hR⟩

theorem freach_reach (inputs : List File) (s : St) (hist : List (Task × Res)) (h : FReach inputs s hist) :
    ∃ w : World, Reach w inputs s ∧ ∀ t r, (t, r) ∈ hist → w.result t = r := by
  obtain ⟨w, hw, _, _, hR, _⟩ := freach_static inputs s hist h
  exact ⟨w, hR, hw⟩

/-- C18 along executions with free results: the `unwrap` in `notify_finish` never panics -/
theorem freach_never_panics (inputs : List File) (s : St) (hist : List (Task × Res)) (h : FReach inputs s hist)
    (t : Task) (r : Res) (ht : t ∈ s.pool) (hty : WellTyped t r) :
    handle { s with pool := s.pool.erase t } r ≠ .panic := by
  obtain ⟨w, hw, hH, _, _, hI⟩ := freach_static inputs s hist h
  have hag := setWorld_agrees w s hist hw hH hI t r ht hty
  have hR' : Reach (setWorld w t r) inputs s := freach_replay _ inputs s hist h hag
  have := never_panics (setWorld w t r) inputs s hR' t ht
  rw [setWorld_result w t r hty] at this
  exact this

/-- C03 with free results: the number of deliveries is at most twice the number of files the coordinator
    has heard of - every file gets at most a first and a final pass -/
theorem freach_budget (inputs : List File) (s : St) (hist : List (Task × Res)) (h : FReach inputs s hist) :
    hist.length ≤ 2 * s.seen.length := by
  obtain ⟨w, _, _, hN, _⟩ := freach_static inputs s hist h
  exact terminates w inputs s.seen hist.length s hN (Nat.le_refl _)

/-- … and no task is delivered twice -/
theorem freach_each_task_once {inputs : List File} {s : St} {hist : List (Task × Res)} (h : FReach inputs s hist) :
    (hist.map Prod.fst).Nodup := by
  induction h with
  | init => simp
  | step s s' hist t r hprev ht hty hc ih =>
    obtain ⟨w, _, hH, _, _, hI⟩ := freach_static inputs s hist hprev
    rw [List.map_append, List.nodup_append]
    refine ⟨ih, by simp, fun a ha b hb e => ?_⟩
    cases List.mem_singleton.1 hb; subst e
    obtain ⟨⟨⟨f, c⟩, r'⟩, hm, rfl⟩ := List.mem_map.1 ha
    cases c
    · exact hI.task_unfinished ht (hH.final f r' hm)
    · exact (hH.first f r' hm).2 ht

end Coord
