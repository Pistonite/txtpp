import Txtpp.Model.Project
/-! C11: the file table of a run. Paths are interned in `names`; by `indexAll_spec` every index designates its path in
    a duplicate-free table, so equal paths get equal indices: a file named several ways (after OS path resolution)
    is one file for the coordinator. -/
namespace Txt

theorem indexOf_spec (names : List Path) (p : Path) :
    (indexOf names p).1.getD (indexOf names p).2 [] = p ∧ (indexOf names p).2 < (indexOf names p).1.length ∧
    (∃ ext, (indexOf names p).1 = names ++ ext) ∧ (names.Nodup → (indexOf names p).1.Nodup) := by
  unfold indexOf
  cases h : names.findIdx? (· == p) with
  | some i =>
    obtain ⟨hlt, hp, _⟩ := List.findIdx?_eq_some_iff_getElem.1 h
    exact ⟨by simpa [List.getD, hlt] using hp, hlt, ⟨[], (List.append_nil _).symm⟩, id⟩
  | none =>
    have hnot : p ∉ names := fun hm => by simpa using List.findIdx?_eq_none_iff.1 h p hm
    refine ⟨by simp [List.getD], by simp, ⟨[p], rfl⟩, fun hn => List.nodup_append.2 ⟨hn, by simp, fun a ha b hb => ?_⟩⟩
    rw [List.mem_singleton.1 hb]; exact fun e => hnot (e ▸ ha)

theorem indexAll_cons (names : List Path) (p : Path) (ps : List Path) : indexAll names (p :: ps) =
    ((indexAll (indexOf names p).1 ps).1, (indexOf names p).2 :: (indexAll (indexOf names p).1 ps).2) := rfl

theorem indexAll_spec : ∀ (ps : List Path) (names : List Path),
    (indexAll names ps).2.length = ps.length ∧
    (∃ ext, (indexAll names ps).1 = names ++ ext) ∧
    (names.Nodup → (indexAll names ps).1.Nodup) ∧
    (∀ k (hk : k < ps.length), ∃ hk' : k < (indexAll names ps).2.length,
      (indexAll names ps).1.getD ((indexAll names ps).2[k]) [] = ps[k] ∧ (indexAll names ps).2[k] < (indexAll names ps).1.length) := by
  intro ps
  induction ps with
  | nil => intro names; exact ⟨rfl, ⟨[], (List.append_nil _).symm⟩, fun h => h, fun k hk => nomatch hk⟩
  | cons p ps ih =>
    intro names
    obtain ⟨h1, h2, ⟨e1, h3⟩, h4⟩ := indexOf_spec names p
    obtain ⟨g1, ⟨e2, g2⟩, g3, g4⟩ := ih (indexOf names p).1
    rw [indexAll_cons]
    refine ⟨congrArg (· + 1) g1, ⟨e1 ++ e2, by rw [g2, h3, List.append_assoc]⟩, fun hn => g3 (h4 hn), fun k hk => ?_⟩
    cases k with
    | zero =>
      refine ⟨Nat.zero_lt_succ _, ?_, ?_⟩ <;> rw [List.getElem_cons_zero, g2]
      · rw [List.getD_eq_getElem?_getD, List.getElem?_append_left h2, ← List.getD_eq_getElem?_getD, h1]; rfl
      · rw [List.length_append]; exact Nat.lt_add_right _ h2
    | succ k =>
      obtain ⟨hk', a, b⟩ := g4 k (Nat.lt_of_succ_lt_succ hk)
      exact ⟨Nat.succ_lt_succ hk', a, b⟩

/-- two positions of `ps` get the same index exactly when they hold the same path: both indices designate their paths
    in a duplicate-free table -/
theorem indexAll_eq_iff (ps names : List Path) (hn : names.Nodup) {i j : Nat} (hi : i < ps.length) (hj : j < ps.length) :
    (indexAll names ps).2[i]'(by rw [(indexAll_spec ps names).1]; exact hi) =
      (indexAll names ps).2[j]'(by rw [(indexAll_spec ps names).1]; exact hj) ↔ ps[i] = ps[j] := by
  obtain ⟨_, _, hnd, hall⟩ := indexAll_spec ps names
  obtain ⟨_, a1, a2⟩ := hall i hi
  obtain ⟨_, b1, b2⟩ := hall j hj
  exact (List.getD_inj a2 b2 (hnd hn)).symm.trans (by rw [a1, b1])

theorem indexAll_ne_nil {names ps : List Path} (h : ps ≠ []) : (indexAll names ps).2 ≠ [] := fun he =>
  h (List.eq_nil_of_length_eq_zero (by rw [← (indexAll_spec ps names).1, he]; rfl))

theorem indexAll_bound {names ps : List Path} : ∀ i ∈ (indexAll names ps).2, i < (indexAll names ps).1.length := by
  intro i hi
  obtain ⟨k, hk, rfl⟩ := List.getElem_of_mem hi
  obtain ⟨_, _, hb⟩ := (indexAll_spec ps names).2.2.2 k ((indexAll_spec ps names).1 ▸ hk)
  exact hb

theorem indexAll_names_le {names ps : List Path} : names.length ≤ (indexAll names ps).1.length := by
  obtain ⟨ext, he⟩ := (indexAll_spec ps names).2.1
  rw [he, List.length_append]; exact Nat.le_add_right _ _

end Txt
