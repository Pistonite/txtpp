import Txtpp.Model.Coord
/-! The dependency manager. First what its two loops compute (`add_dependency`, `notify_finish`), in closed
    form. Then its invariant, in terms of the manager and the dependency lists alone: the in-edge lists
    record, without duplicates, who still waits for which unfinished dependency, and the counter of a
    waiting file is the number of lists it is in. Both operations keep it (`notify_finish` for an unfinished file
    whose dependencies are finished, `add_dependency` for a file that has no counter), so the coordinator
    invariant only has to say how `seen` and the pool relate to such a manager. -/
namespace Coord

theorem addDepLoop_spec (a : File) (deps : List File) (inE : File → List File) (fin : List File) (c : Nat) (added : Bool) :
    let r := addDepLoop a deps inE fin c added
    (∀ d, r.1 d = if d ∈ deps ∧ d ∉ fin ∧ a ∉ inE d then a :: inE d else inE d) ∧
    (r.2.2 = (added || deps.any (fun d => decide (d ∉ fin)))) ∧
    (∃ L : List File, L.Nodup ∧ (∀ d, d ∈ L ↔ (d ∈ deps ∧ d ∉ fin ∧ a ∉ inE d)) ∧ r.2.1 = c + L.length) := by
  induction deps generalizing inE c added with
  | nil => simp [addDepLoop]
  | cons d ds ih =>
    by_cases hnew : d ∉ fin ∧ a ∉ inE d
    · -- `a` starts to wait for `d`
      obtain ⟨h1, h2, L, hL, hmem, hlen⟩ := ih (upd inE d (a :: inE d)) (c + 1) true
      simp only [addDepLoop, hnew.1, hnew.2, if_false]
      refine ⟨fun x => ?_, by rw [h2]; simp [hnew.1], d :: L, ?_, fun x => ?_, by rw [hlen, List.length_cons]; omega⟩
      · rw [h1 x]
        by_cases hx : x = d
        · subst hx; simp [hnew.1, hnew.2]
        · simp [hx, upd_other]
      · exact List.nodup_cons.2 ⟨by rw [hmem d]; simp, hL⟩
      · by_cases hx : x = d
        · subst hx; simp [hnew.1, hnew.2]
        · simp [hx, hmem x, upd_other]
    · -- `d` is finished or `a` waits for it already: at most the flag changes
      have hcond : ∀ x, (x ∈ d :: ds ∧ x ∉ fin ∧ a ∉ inE x) ↔ (x ∈ ds ∧ x ∉ fin ∧ a ∉ inE x) := fun x =>
        ⟨fun ⟨hx, hp⟩ => ⟨(List.mem_cons.1 hx).resolve_left fun e => hnew (e ▸ hp), hp⟩,
         fun h => ⟨List.mem_cons_of_mem _ h.1, h.2⟩⟩
      obtain ⟨h1, h2, L, hL, hmem, hlen⟩ := ih inE c (added || decide (d ∉ fin))
      have hstep : addDepLoop a (d :: ds) inE fin c added = addDepLoop a ds inE fin c (added || decide (d ∉ fin)) := by
        by_cases hf : d ∈ fin
        · simp [addDepLoop, hf]
        · simp [addDepLoop, hf, Classical.not_not.1 fun h => hnew ⟨hf, h⟩]
      rw [hstep]
      exact ⟨fun x => by rw [h1 x]; simp only [hcond], by rw [h2]; simp [Bool.or_assoc], L, hL,
        fun x => by rw [hmem, hcond], hlen⟩

/-- one decrement in `notify_finish`: a counter that reaches zero is removed -/
def dec : Option Nat → Option Nat
  | some c => if c ≤ 1 then none else some (c - 1)
  | none => none

theorem releaseLoop_cons {a : File} {c : Nat} (as : List File) {cnt : File → Option Nat} (out : List File)
    (h : cnt a = some c) :
    releaseLoop (a :: as) cnt out =
      releaseLoop as (upd cnt a (dec (cnt a))) (if dec (cnt a) = none then a :: out else out) := by
  simp only [releaseLoop, h, dec]; split <;> simp

theorem releaseLoop_eq (as : List File) (cnt : File → Option Nat) (out : List File)
    (hnd : as.Nodup) (hdef : ∀ a ∈ as, ∃ k, cnt a = some k) :
    ∃ cnt', releaseLoop as cnt out = some (cnt', (as.filter fun a => dec (cnt a) = none).reverse ++ out) ∧
      ∀ x, cnt' x = if x ∈ as then dec (cnt x) else cnt x := by
  induction as generalizing cnt out with
  | nil => exact ⟨cnt, rfl, fun x => by simp⟩
  | cons a as ih =>
    obtain ⟨k, hk⟩ := hdef a List.mem_cons_self
    obtain ⟨ha, hnd'⟩ := List.nodup_cons.1 hnd
    have hrest : ∀ x ∈ as, upd cnt a (dec (cnt a)) x = cnt x := fun x hx => upd_other _ _ _ _ fun e => ha (e ▸ hx)
    obtain ⟨cnt', hr, hc⟩ := ih (upd cnt a (dec (cnt a))) (if dec (cnt a) = none then a :: out else out) hnd'
      fun x hx => by rw [hrest x hx]; exact hdef x (List.mem_cons_of_mem _ hx)
    refine ⟨cnt', ?_, fun x => ?_⟩
    · rw [releaseLoop_cons as out hk, hr, List.filter_congr fun x hx => by rw [hrest x hx], List.filter_cons]
      by_cases h : dec (cnt a) = none <;> simp [h]
    · rw [hc x]
      by_cases hx : x ∈ as
      · rw [if_pos hx, if_pos (List.mem_cons_of_mem _ hx), hrest x hx]
      · by_cases hxa : x = a
        · subst hxa; rw [if_neg hx, if_pos List.mem_cons_self, upd_same]
        · rw [if_neg hx, if_neg (fun h => (List.mem_cons.1 h).elim hxa hx), upd_other _ _ _ _ hxa]

structure DmInv (deps : File → List File) (m : DepMgr) : Prop where
  finND : m.fin.Nodup
  edge : ∀ d a, a ∈ m.inE d → d ∈ deps a ∧ d ∉ m.fin
  inEND : ∀ d, (m.inE d).Nodup
  count : ∀ a, (∃ d, a ∈ m.inE d) → ∃ L : List File, L.Nodup ∧ m.cnt a = some L.length ∧ ∀ d, d ∈ L ↔ a ∈ m.inE d
  waitDeps : ∀ a, (∃ d, a ∈ m.inE d) → ∀ d ∈ deps a, d ∈ m.fin ∨ a ∈ m.inE d
  finDeps : ∀ a ∈ m.fin, ∀ d ∈ deps a, d ∈ m.fin

theorem mem_upd_nil {inE : File → List File} {b d x : File} : x ∈ upd inE b [] d ↔ d ≠ b ∧ x ∈ inE d := by
  by_cases hd : d = b
  · subst hd; simp
  · simp [hd]

variable {deps : File → List File} {m : DepMgr}

theorem DmInv.idle_of_deps (hI : DmInv deps m) {a : File} (h : ∀ d ∈ deps a, d ∈ m.fin) (d : File) : a ∉ m.inE d :=
  fun ha => (hI.edge d a ha).2 (h d (hI.edge d a ha).1)

/-- a waiting file is not finished -/
theorem DmInv.ex3 (hI : DmInv deps m) (f d : File) (h : f ∈ m.inE d) : f ∉ m.fin :=
  fun hf => hI.idle_of_deps (hI.finDeps f hf) d h

theorem DmInv.idle_of_cnt (hI : DmInv deps m) {a : File} (hc : m.cnt a = none) (d : File) : a ∉ m.inE d := fun h => by
  obtain ⟨_, _, hL, _⟩ := hI.count a ⟨d, h⟩
  rw [hc] at hL; cases hL

theorem DmInv.last_dep (hI : DmInv deps m) {x b : File} (hx : x ∈ m.inE b) :
    dec (m.cnt x) = none ↔ ∀ d, x ∈ m.inE d → d = b := by
  obtain ⟨L, hL, hc, hm⟩ := hI.count x ⟨b, hx⟩
  have hb := (hm b).2 hx
  rw [hc]
  match L, hL, hm, hb with
  | [y], _, hm, hb =>
    refine ⟨fun _ d hd => ?_, fun _ => rfl⟩
    rw [List.mem_singleton.1 hb, List.mem_singleton.1 ((hm d).2 hd)]
  | y :: z :: r, hL, hm, _ =>
    refine ⟨fun h => by simp [dec] at h, fun h => ?_⟩
    have hy := h y ((hm y).1 (by simp)); have hz := h z ((hm z).1 (by simp))
    subst hy; subst hz; simp at hL

theorem DmInv.notifyFinish (hI : DmInv deps m) (a : File) (haF : a ∉ m.fin)
    (hdeps : ∀ d ∈ deps a, d ∈ m.fin) :
    ∃ m' rel, notifyFinish m a = some (m', rel) ∧ DmInv deps m' ∧ m'.fin = a :: m.fin ∧
      (∀ d x, x ∈ m'.inE d ↔ d ≠ a ∧ x ∈ m.inE d) ∧ rel.Nodup ∧
      (∀ x, x ∈ rel ↔ x ∈ m.inE a ∧ ∀ d, x ∈ m.inE d → d = a) ∧
      (∀ x, x ∉ m.inE a → m'.cnt x = m.cnt x) := by
  obtain ⟨cnt', hr, hc⟩ := releaseLoop_eq (m.inE a) m.cnt [] (hI.inEND a)
    fun x hx => (hI.count x ⟨a, hx⟩).elim fun L h => ⟨_, h.2.1⟩
  rw [List.append_nil] at hr
  refine ⟨⟨cnt', upd m.inE a [], a :: m.fin⟩, _, by simp only [Coord.notifyFinish, hr]; rfl, ?_, rfl,
    fun d x => mem_upd_nil, ?_, fun x => ?_, fun x hx => (hc x).trans (if_neg hx)⟩
  · constructor <;> simp only [mem_upd_nil, List.mem_cons]
    case finND => exact List.nodup_cons.2 ⟨haF, hI.finND⟩
    case edge =>
      intro d x h
      exact ⟨(hI.edge d x h.2).1, fun h' => h'.elim h.1 (hI.edge d x h.2).2⟩
    case inEND =>
      intro d
      by_cases hd : d = a
      · subst hd; simp
      · rw [upd_other _ _ _ _ hd]; exact hI.inEND d
    case count =>
      rintro x ⟨d0, hd0a, hd0⟩
      obtain ⟨L, hL, hcx, hm⟩ := hI.count x ⟨d0, hd0⟩
      by_cases hxa : x ∈ m.inE a
      · -- the counter was decremented: `x` still waits for `d0 ≠ a`, so it was at least two
        have hlen : ¬ L.length ≤ 1 := fun h =>
          hd0a ((hI.last_dep hxa).1 (by rw [hcx]; simp [dec, h]) d0 hd0)
        refine ⟨L.erase a, hL.erase a, ?_, fun d => by rw [hL.mem_erase_iff, hm d]⟩
        rw [hc, if_pos hxa, hcx, List.length_erase_of_mem ((hm a).2 hxa)]; simp [dec, hlen]
      · refine ⟨L, hL, by rw [hc, if_neg hxa, hcx], fun d => ?_⟩
        rw [hm d]; exact ⟨fun h => ⟨fun e => hxa (e ▸ h), h⟩, fun h => h.2⟩
    case waitDeps =>
      rintro x ⟨d0, _, hd0⟩ d hd
      rcases hI.waitDeps x ⟨d0, hd0⟩ d hd with h | h
      · exact Or.inl (Or.inr h)
      · by_cases hda : d = a
        · exact Or.inl (Or.inl hda)
        · exact Or.inr ⟨hda, h⟩
    case finDeps =>
      intro x hx d hd
      exact Or.inr (hx.elim (fun e => hdeps d (e ▸ hd)) (fun hx => hI.finDeps x hx d hd))
  · exact List.pairwise_reverse.2 (((hI.inEND a).sublist List.filter_sublist).imp Ne.symm)
  · rw [List.mem_reverse, List.mem_filter, decide_eq_true_iff]
    exact and_congr_right fun hx => hI.last_dep hx

theorem DmInv.addDependency (hI : DmInv deps m) (a : File)
    (hc : m.cnt a = none) (hne : deps a ≠ []) {m' : DepMgr} {added : Bool}
    (h : addDependency m a (deps a) = (m', added)) :
    DmInv deps m' ∧ m'.fin = m.fin ∧
      (∀ d x, x ∈ m'.inE d ↔ (x = a ∧ d ∈ deps a ∧ d ∉ m.fin) ∨ x ∈ m.inE d) ∧
      (∀ x, x ≠ a → m'.cnt x = m.cnt x) ∧
      (added = true → ∃ d ∈ deps a, d ∉ m.fin) ∧ (added = false → ∀ d ∈ deps a, d ∈ m.fin) := by
  have haW := hI.idle_of_cnt hc
  obtain ⟨hin, hadded, L, hL, hLm, hLc⟩ := addDepLoop_spec a (deps a) m.inE m.fin 0 false
  let r := addDepLoop a (deps a) m.inE m.fin 0 false
  have hinE : ∀ d x, x ∈ r.1 d ↔ (x = a ∧ d ∈ deps a ∧ d ∉ m.fin) ∨ x ∈ m.inE d := by
    intro d x; rw [hin d]
    by_cases hd : d ∈ deps a ∧ d ∉ m.fin
    · rw [if_pos ⟨hd.1, hd.2, haW d⟩, List.mem_cons]; exact or_congr ⟨fun h => ⟨h, hd⟩, fun h => h.1⟩ Iff.rfl
    · rw [if_neg (fun h => hd ⟨h.1, h.2.1⟩)]; exact ⟨Or.inr, fun h => h.elim (fun h => absurd h.2 hd) id⟩
  have hold : ∀ x, x ≠ a → ∀ d, x ∈ r.1 d ↔ x ∈ m.inE d := fun x hx d =>
    (hinE d x).trans ⟨fun h => h.elim (fun h => absurd h.1 hx) id, Or.inr⟩
  have hcnt : ∀ x, x ≠ a → upd m.cnt a (some r.2.1) x = m.cnt x := fun x hx => upd_other _ _ _ _ hx
  have hm' : (m', added) = ({ m with inE := r.1, cnt := upd m.cnt a (some r.2.1) }, r.2.2) :=
    h.symm.trans (by simp [Coord.addDependency, hne, hc, r])
  cases hm'
  refine ⟨?_, rfl, hinE, hcnt, by rw [hadded]; simp, by rw [hadded]; simp⟩
  constructor
  case finND => exact hI.finND
  case edge =>
    intro d x h
    rcases (hinE d x).1 h with ⟨rfl, h⟩ | h
    · exact h
    · exact hI.edge d x h
  case inEND =>
    intro d; show (r.1 d).Nodup
    rw [hin d]; split
    · rename_i h; exact List.nodup_cons.2 ⟨h.2.2, hI.inEND d⟩
    · exact hI.inEND d
  case count =>
    intro x hx
    show ∃ L : List File, L.Nodup ∧ upd m.cnt a (some r.2.1) x = some L.length ∧ ∀ d, d ∈ L ↔ x ∈ r.1 d
    by_cases hxa : x = a
    · subst hxa
      refine ⟨L, hL, by rw [upd_same, hLc, Nat.zero_add], fun d => ?_⟩
      rw [hLm d, hinE d x]
      exact ⟨fun h => Or.inl ⟨rfl, h.1, h.2.1⟩, fun h => h.elim (fun h => ⟨h.2.1, h.2.2, haW d⟩) (fun h => absurd h (haW d))⟩
    · obtain ⟨L', hL', hc', hm'⟩ := hI.count x (hx.imp fun d hd => (hold x hxa d).1 hd)
      exact ⟨L', hL', by rw [hcnt x hxa]; exact hc', fun d => (hm' d).trans (hold x hxa d).symm⟩
  case waitDeps =>
    intro x hx d hd
    show d ∈ m.fin ∨ x ∈ r.1 d
    by_cases hxa : x = a
    · subst hxa
      by_cases hdf : d ∈ m.fin
      · exact Or.inl hdf
      · exact Or.inr ((hinE d x).2 (Or.inl ⟨rfl, hd, hdf⟩))
    · exact (hI.waitDeps x (hx.imp fun d hd => (hold x hxa d).1 hd) d hd).imp id (hold x hxa d).2
  case finDeps => exact hI.finDeps

end Coord
