import Txtpp.Model.Cli
/-! What `CliParsed.config` (the `apply_to` chain of `main.rs`) makes of the parsed command line, per sub-command:
    mode, inputs, recursion, threads, trailing newline and shell (`build_mode`, `clean_mode`, `verify_mode`), and that
    what stands in front of a sub-command is ignored. The `cli_*` theorems of C06, C07, C09, C11, C13 read these off. -/
namespace Txt

/-- a sub-command decides the mode; nothing written in front of it (`-N`, `-n`, `-r`, inputs …) matters -/
theorem sub_ignores_top_level (p : CliParsed) (s : CliSub) (h : p.sub = some s) (fl : CliFlags) (b : CliBuildFlags) (n : Bool) :
    ({ p with flags := fl, build := b, needed := n } : CliParsed).config = p.config := by
  simp only [CliParsed.config, h]
  cases s <;> rfl

theorem clean_mode (p : CliParsed) (f : CliFlags) (h : p.sub = some (.clean f)) :
    p.config.mode = .clean ∧ p.config.recursive = f.recursive ∧ p.config.inputs = f.inputs ∧ p.config.numThreads = f.threads := by
  simp [CliParsed.config, h, CliFlags.applyTo]

theorem verify_mode (p : CliParsed) (f : CliFlags) (b : CliBuildFlags) (h : p.sub = some (.verify f b)) :
    p.config.mode = .verify ∧ p.config.recursive = f.recursive ∧ p.config.inputs = f.inputs ∧
    p.config.trailingNewline = !b.noTrailingNewline ∧ p.config.shellCmd = b.shell := by
  simp [CliParsed.config, h, CliFlags.applyTo, CliBuildFlags.applyTo]

theorem build_mode (p : CliParsed) (h : p.sub = none) :
    p.config.mode = (if p.needed then .inMemory else .build) ∧ p.config.recursive = p.flags.recursive ∧
    p.config.inputs = p.flags.inputs ∧ p.config.trailingNewline = !p.build.noTrailingNewline ∧
    p.config.shellCmd = p.build.shell ∧ p.config.numThreads = p.flags.threads := by
  simp [CliParsed.config, h, CliFlags.applyTo, CliBuildFlags.applyTo]

/-- the verbosity flags change nothing but the verbosity -/
theorem verbosity_only (f : CliFlags) (c : RunConfig) (q v : Bool) :
    ({ f with quiet := q, verbose := v } : CliFlags).applyTo c = { f.applyTo c with verbosity := (({ f with quiet := q, verbose := v } : CliFlags).applyTo c).verbosity } := by
  simp [CliFlags.applyTo]

end Txt
