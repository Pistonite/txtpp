import Txtpp.Lemmas.CoordInv
/-! Every reachable state satisfies `Inv`, and what that means for a run: no panic, the exit test, one task
    per file, nothing after finishing, failing files never finish; at quiescence a seen file waits or is
    finished, and a waiting file has a waiting dependency (C05). -/
namespace Coord

theorem deliver_cases {w : World} {s : St} {t : Task} (hI : Inv w s) (ht : t ∈ s.pool) :
    handle { s with pool := s.pool.erase t } (w.result t) = .fail ∨
    ∃ s', handle { s with pool := s.pool.erase t } (w.result t) = .cont s' ∧ Inv w s' := by
  obtain ⟨a, first⟩ := t
  rcases result_cases w a first with ⟨h, _⟩ | ⟨h, _, hd⟩ | ⟨h, rfl, hd⟩ <;> rw [h]
  · exact Or.inl rfl
  · exact Or.inr (finish_preserves hI ht (hI.deps_fin_of_final ht hd))
  · exact Or.inr (hasDeps_preserves hI ht hd)

theorem step_preserves {w : World} {s s' : St} (hI : Inv w s) (h : Step w s s') : Inv w s' := by
  cases h with
  | deliver t ht h =>
    rcases deliver_cases hI ht with hf | ⟨s'', hc, hI'⟩
    · rw [hf] at h; cases h
    · rw [hc] at h; cases h; exact hI'

theorem reach_inv (w : World) (inputs : List File) (s : St) (h : Reach w inputs s) : Inv w s := by
  induction h with
  | init => exact inv_init w inputs
  | step s s' _ hs ih => exact step_preserves ih hs

/-- C18 (dependency.rs:66): the `unwrap` in `notify_finish` never panics -/
theorem never_panics (w : World) (inputs : List File) (s : St) (h : Reach w inputs s) (t : Task) (ht : t ∈ s.pool) :
    handle { s with pool := s.pool.erase t } (w.result t) ≠ .panic := by
  rcases deliver_cases (reach_inv w inputs s h) ht with hf | ⟨s', hc, _⟩
  · rw [hf]; simp
  · rw [hc]; simp

/-- C04 -/
theorem failing_never_finished (w : World) (inputs : List File) (s : St) (h : Reach w inputs s) (f : File)
    (hf : w.failFinal f = true) : f ∉ s.dm.fin := by
  induction h with
  | init => rw [init_fin]; exact List.not_mem_nil
  | step s s' _ hs ih =>
    obtain ⟨t, _, hc⟩ := hs
    rcases handle_result_cont hc with ⟨a, _, _, _, hnf, _, e⟩ | ⟨_, _, _, _, e⟩ <;> rw [e]
    · exact fun h => (List.mem_cons.1 h).elim (fun e => by rw [e, hnf] at hf; cases hf) ih
    · exact ih

/-- C03: `done == total` is exactly "nothing in flight" -/
theorem exit_iff_pool_nil (w : World) (inputs : List File) (s : St) (h : Reach w inputs s) :
    s.done = s.total ↔ s.pool = [] := by
  have := (reach_inv w inputs s h).acct
  rw [← List.length_eq_zero_iff]; omega

/-- C02: a second pass is only ever in flight when all dependencies of the file have finished -/
theorem second_pass_after_deps (w : World) (inputs : List File) (s : St) (h : Reach w inputs s) (a : File)
    (ha : Task.pp a false ∈ s.pool) : ∀ d ∈ w.deps a, d ∈ s.dm.fin :=
  (reach_inv w inputs s h).secondDeps a ha

/-- C02/C03: a finished file has nothing in flight (its output is never written again) -/
theorem finished_is_quiet (w : World) (inputs : List File) (s : St) (h : Reach w inputs s) (a : File)
    (ha : a ∈ s.dm.fin) (b : Bool) : Task.pp a b ∉ s.pool :=
  fun hm => (reach_inv w inputs s h).task_unfinished hm ha

/-- C02 -/
theorem one_task_per_file (w : World) (inputs : List File) (s : St) (h : Reach w inputs s) (a : File) :
    ¬ (Task.pp a true ∈ s.pool ∧ Task.pp a false ∈ s.pool) ∧ s.pool.Nodup := by
  have hI := reach_inv w inputs s h
  exact ⟨fun ⟨h1, h2⟩ => (hI.ex1 a h1).1 h2, hI.poolND⟩

/-- `take_remaining` is non-empty iff some in-edge list is non-empty -/
def Leftover (s : St) : Prop := ∃ d a, a ∈ s.dm.inE d

theorem quiescent_cover (w : World) (inputs : List File) (s : St) (h : Reach w inputs s) (hq : s.pool = []) :
    ∀ f ∈ s.seen, (∃ d, f ∈ s.dm.inE d) ∨ f ∈ s.dm.fin :=
  fun f hf => (((reach_inv w inputs s h).cover f hf).resolve_left (by simp [hq])).resolve_left (by simp [hq])

theorem success_all_finished (w : World) (inputs : List File) (s : St) (h : Reach w inputs s)
    (hq : s.pool = []) (hno : ¬ Leftover s) : ∀ f ∈ s.seen, f ∈ s.dm.fin := fun f hf =>
  (quiescent_cover w inputs s h hq f hf).resolve_left fun ⟨d, hd⟩ => hno ⟨d, f, hd⟩

/-- C05: at quiescence the waiting files are a set without sink, the hypothesis of `reaches_cycle_of_closed` -/
theorem waiting_has_waiting_dep (w : World) (inputs : List File) (s : St) (h : Reach w inputs s) (hq : s.pool = [])
    (f : File) (hf : ∃ d, f ∈ s.dm.inE d) : ∃ d, d ∈ w.deps f ∧ d ∈ s.seen ∧ ∃ e, d ∈ s.dm.inE e := by
  have hI := reach_inv w inputs s h
  obtain ⟨d, hd⟩ := hf
  obtain ⟨h1, h2, h3, _⟩ := hI.edge d f hd
  rcases quiescent_cover w inputs s h hq d h3 with hw | hfin
  · exact ⟨d, h1, h3, hw⟩
  · exact absurd hfin h2

end Coord
