import Txtpp.Model.Fs
/-! The file-system model, operation by operation: `write` / `remove` on `file?`, `touched` and `log`;
    and what each operation a pass performs on the file system *is* in those terms - a command changes
    only the marker log (`fileWorld_run_fs`), a temp write is a few writes at the resolved target
    (`writeTemp_cases`), a temp removal at most one removal (`removeTemp_cases`), opening and closing the
    output at most one write or removal at the output path (`sinkStart_cases`, `sinkEnd_cases`).
    Every invariant of a pass is proved from these (Lemmas/RunPassFacts.lean). Path resolution looks at
    the directories only (`resolve_dirs`); the world of a source depends on the configuration through the
    base path and the command table only (`fileWorld_congr`). `Untouched`, the frame condition of every later file, is
    defined here. -/
namespace Txt

theorem find?_filter_ne (l : List (Path × ByteArray)) (p q : Path) (h : q ≠ p) :
    (l.filter (fun kv => kv.1 != p)).find? (fun kv => kv.1 == q) = l.find? (fun kv => kv.1 == q) := by
  rw [List.find?_filter]
  congr 1; funext kv
  by_cases hk : kv.1 = q <;> simp [hk, h]

@[simp] theorem file?_write_same (fs : FS) (p : Path) (b : ByteArray) : (fs.write p b).file? p = some b := by
  simp [FS.write, FS.file?, FS.touch]

theorem file?_write_other (fs : FS) (p q : Path) (b : ByteArray) (h : q ≠ p) : (fs.write p b).file? q = fs.file? q := by
  simp only [FS.write, FS.file?, FS.touch]
  have hq : (p == q) = false := beq_false_of_ne (fun e => h e.symm)
  simp only [List.find?_cons, hq]
  rw [find?_filter_ne _ p q h]

@[simp] theorem file?_remove_same (fs : FS) (p : Path) : (fs.remove p).file? p = none := by
  simp only [FS.remove, FS.file?, FS.touch, Option.map_eq_none_iff, List.find?_eq_none]
  intro kv hkv
  simp only [List.mem_filter] at hkv
  simpa using hkv.2

theorem file?_remove_other (fs : FS) (p q : Path) (h : q ≠ p) : (fs.remove p).file? q = fs.file? q := by
  simp only [FS.remove, FS.file?, FS.touch]
  rw [find?_filter_ne _ p q h]

theorem mem_touch (fs : FS) (p q : Path) : q ∈ (fs.touch p).touched ↔ q = p ∨ q ∈ fs.touched := by
  simp only [FS.touch]
  split
  · rename_i hc
    have hp : p ∈ fs.touched := by simpa using hc
    exact ⟨Or.inr, fun h => h.elim (· ▸ hp) id⟩
  · exact List.mem_cons

theorem touched_write (fs : FS) (p q : Path) (b : ByteArray) : q ∈ (fs.write p b).touched ↔ q = p ∨ q ∈ fs.touched := by
  simpa [FS.write] using mem_touch fs p q

theorem touched_remove (fs : FS) (p q : Path) : q ∈ (fs.remove p).touched ↔ q = p ∨ q ∈ fs.touched := by
  simpa [FS.remove] using mem_touch fs p q

theorem log_write (fs : FS) (p : Path) (b : ByteArray) : (fs.write p b).log = fs.log := rfl
theorem log_remove (fs : FS) (p : Path) : (fs.remove p).log = fs.log := rfl

/-- every path whose content differs from `fs0` has been touched, and the touch set has only grown:
    the soundness invariant of the touch set -/
def Untouched (fs0 fs : FS) : Prop :=
  (∀ p, p ∉ fs.touched → fs.file? p = fs0.file? p) ∧ (∀ p, p ∈ fs0.touched → p ∈ fs.touched)

theorem Untouched.refl (fs : FS) : Untouched fs fs := ⟨fun _ _ => rfl, fun _ h => h⟩

/-- one step that changes the path `p` only -/
theorem Untouched.step {fs0 fs fs' : FS} {p : Path} (h : Untouched fs0 fs)
    (ht : ∀ q, q ∈ fs'.touched ↔ q = p ∨ q ∈ fs.touched) (hf : ∀ q, q ≠ p → fs'.file? q = fs.file? q) : Untouched fs0 fs' := by
  refine ⟨fun q hq => ?_, fun q hq => (ht q).2 (Or.inr (h.2 q hq))⟩
  have hq' := not_or.1 (mt (ht q).2 hq)
  rw [hf q hq'.1]; exact h.1 q hq'.2

theorem Untouched.write (fs0 fs : FS) (p : Path) (b : ByteArray) (h : Untouched fs0 fs) : Untouched fs0 (fs.write p b) :=
  h.step (fun q => touched_write fs p q b) (fun q => file?_write_other fs p q b)

theorem Untouched.remove (fs0 fs : FS) (p : Path) (h : Untouched fs0 fs) : Untouched fs0 (fs.remove p) :=
  h.step (touched_remove fs p) (file?_remove_other fs p)

theorem Untouched.trans (a b c : FS) (h1 : Untouched a b) (h2 : Untouched b c) : Untouched a c := by
  refine ⟨?_, fun p hp => h2.2 p (h1.2 p hp)⟩
  intro p hp
  have hb : p ∉ b.touched := fun hm => hp (h2.2 p hm)
  rw [h2.1 p hp, h1.1 p hb]

theorem isDir_dirs {fs fs' : FS} (h : fs'.dirs = fs.dirs) (p : Path) : fs'.isDir p = fs.isDir p := by
  simp only [FS.isDir, h]

theorem walk_dirs (fs fs' : FS) (h : fs'.dirs = fs.dirs) : ∀ (comps : List Str) (cur : Path), fs'.walk cur comps = fs.walk cur comps := by
  intro comps
  induction comps with
  | nil => intro cur; rfl
  | cons c cs ih => intro cur; simp only [FS.walk, FS.isDir, h, ih]; rfl

theorem resolve_dirs (fs fs' : FS) (cfg : Cfg) (wd : Path) (arg : Str) (h : fs'.dirs = fs.dirs) :
    fs'.resolve cfg wd arg = fs.resolve cfg wd arg := by
  unfold FS.resolve
  split
  · rfl
  · exact walk_dirs fs fs' h _ _

theorem runAct_fs (cfg : Cfg) (wd : Path) (src : Str) (fs : FS) (k a : Str) :
    (runAct cfg wd src fs k a).2.2 = { fs with log := (runAct cfg wd src fs k a).2.2.log } := by
  -- `fun_cases` goes through the if-chain once; `split` re-elaborates the whole chain at every level
  fun_cases runAct cfg wd src fs k a <;> rfl

theorem runActs_cons (cfg : Cfg) (wd : Path) (src : Str) (fs : FS) (k a : Str) (rest : List (Str × Str)) (out : ByteArray) (ok : Bool) :
    runActs cfg wd src fs ((k, a) :: rest) out ok =
      runActs cfg wd src (runAct cfg wd src fs k a).2.2 rest (out ++ (runAct cfg wd src fs k a).1) (runAct cfg wd src fs k a).2.1 := rfl

theorem runActs_fs (cfg : Cfg) (wd : Path) (src : Str) (fs : FS) (acts : List (Str × Str)) (out : ByteArray) (ok : Bool) :
    ∃ l, (runActs cfg wd src fs acts out ok).2.2 = { fs with log := l } := by
  induction acts generalizing fs out ok with
  | nil => exact ⟨fs.log, rfl⟩
  | cons a rest ih =>
    obtain ⟨k, v⟩ := a
    simp only [runActs]
    obtain ⟨l, hl⟩ := ih (runAct cfg wd src fs k v).2.2 (out ++ (runAct cfg wd src fs k v).1) (runAct cfg wd src fs k v).2.1
    rw [hl, runAct_fs]
    exact ⟨l, rfl⟩

theorem fileWorld_run_fs (cfg : Cfg) (wd : Path) (src : Str) (fs : FS) (cmd : Str) :
    ∃ l, ((fileWorld cfg wd src).run fs cmd).2 = { fs with log := l } := by
  dsimp only [fileWorld]
  cases cfg.cmds.find? (fun kv => kv.1 == cmd) with
  | none => exact ⟨fs.log, rfl⟩
  | some kv =>
    obtain ⟨l, hl⟩ := runActs_fs cfg wd src fs kv.2 ByteArray.empty true
    dsimp only; split <;> exact ⟨l, hl⟩

theorem run_dirs (cfg : Cfg) (wd : Path) (src : Str) (a : FS) (cmd : Str) : ((fileWorld cfg wd src).run a cmd).2.dirs = a.dirs := by
  obtain ⟨l, hl⟩ := fileWorld_run_fs cfg wd src a cmd
  rw [hl]

theorem argComps_congr (cfg cfg' : Cfg) (h : cfg'.baseAbs = cfg.baseAbs) (wd : Path) (arg : Str) :
    argComps cfg' wd arg = argComps cfg wd arg := by
  unfold argComps; rw [h]

theorem resolve_congr (cfg cfg' : Cfg) (h : cfg'.baseAbs = cfg.baseAbs) (fs : FS) (wd : Path) (arg : Str) :
    fs.resolve cfg' wd arg = fs.resolve cfg wd arg := by
  unfold FS.resolve; rw [argComps_congr cfg cfg' h]

theorem depOf_congr (cfg cfg' : Cfg) (h : cfg'.baseAbs = cfg.baseAbs) (fs : FS) (wd : Path) (arg : Str) :
    fs.depOf cfg' wd arg = fs.depOf cfg wd arg := by
  unfold FS.depOf depSplit; rw [argComps_congr cfg cfg' h]

theorem runActs_congr (cfg cfg' : Cfg) (h : cfg'.baseAbs = cfg.baseAbs) (wd : Path) (src : Str) :
    ∀ (acts : List (Str × Str)) (fs : FS) (out : ByteArray) (ok : Bool),
      runActs cfg' wd src fs acts out ok = runActs cfg wd src fs acts out ok := by
  have h1 : ∀ fs k a, runAct cfg' wd src fs k a = runAct cfg wd src fs k a := fun fs k a => by
    unfold runAct; rw [resolve_congr cfg cfg' h, h]
  intro acts
  induction acts with
  | nil => intro fs out ok; rfl
  | cons ka rest ih => intro fs out ok; obtain ⟨k, a⟩ := ka; rw [runActs_cons, runActs_cons, h1, ih]

theorem fileWorld_congr (cfg cfg' : Cfg) (h : cfg'.baseAbs = cfg.baseAbs) (hc : cfg'.cmds = cfg.cmds) (wd : Path) (src : Str) :
    fileWorld cfg' wd src = fileWorld cfg wd src := by
  unfold fileWorld
  congr 1
  · funext fs arg; rw [resolve_congr cfg cfg' h]
  · funext fs arg; rw [depOf_congr cfg cfg' h]
  · funext fs cmd; rw [hc]; simp only [runActs_congr cfg cfg' h]
  · funext fs t c; rw [resolve_congr cfg cfg' h]
  · funext fs t; rw [resolve_congr cfg cfg' h]

/-- `fs'` is `fs` after finitely many writes at `p`, of contents that satisfy `B` -/
inductive WrittenAt (p : Path) (B : ByteArray → Prop) (fs : FS) : FS → Prop
  | same : WrittenAt p B fs fs
  | write {fs' : FS} (b : ByteArray) : B b → WrittenAt p B fs fs' → WrittenAt p B fs (fs'.write p b)

theorem WrittenAt.frame {p : Path} {B : ByteArray → Prop} {fs fs' : FS} (h : WrittenAt p B fs fs') :
    fs'.dirs = fs.dirs ∧ ∀ q, q ≠ p → fs'.file? q = fs.file? q := by
  induction h with
  | same => exact ⟨rfl, fun _ _ => rfl⟩
  | write b _ _ ih => exact ⟨ih.1, fun q hq => (file?_write_other _ p q b hq).trans (ih.2 q hq)⟩

/-- `write_temp_file`: the target resolves, is no directory, is written at most twice (created empty,
    then filled) and holds the new content afterwards -/
theorem writeTemp_cases (cfg : Cfg) (wd : Path) (src : Str) (fs fs' : FS) (t c : Str)
    (h : (fileWorld cfg wd src).writeTemp fs t c = some fs') :
    ∃ p, fs.resolve cfg wd t = some p ∧ fs.isDir p = false ∧
      WrittenAt p (fun b => b = ByteArray.empty ∨ b = encodeUtf8 c) fs fs' ∧ fs'.file? p = some (encodeUtf8 c) := by
  dsimp only [fileWorld] at h
  cases hp : fs.resolve cfg wd t with
  | none => rw [hp] at h; cases h
  | some p =>
    rw [hp] at h; dsimp only at h
    refine ⟨p, rfl, ?_⟩
    cases hd : fs.isDir p with
    | true => rw [hd, if_pos rfl] at h; cases h
    | false =>
      rw [hd, if_neg Bool.false_ne_true] at h
      refine ⟨rfl, ?_⟩
      have h1 : WrittenAt p (fun b => b = ByteArray.empty ∨ b = encodeUtf8 c) fs
          (if fs.isFile p then fs else fs.write p ByteArray.empty) := by
        split
        · exact .same
        · exact .write _ (Or.inl rfl) .same
      generalize (if fs.isFile p then fs else fs.write p ByteArray.empty) = fs1 at h h1
      split at h
      · rename_i heq; cases h; exact ⟨h1, heq⟩
      · cases h; exact ⟨.write _ (Or.inr rfl) h1, file?_write_same ..⟩

/-- whether `write_temp_file` succeeds is a matter of the directories -/
theorem writeTemp_isSome (cfg : Cfg) (wd : Path) (src : Str) (fs : FS) (t c : Str) :
    ((fileWorld cfg wd src).writeTemp fs t c).isSome = ((fs.resolve cfg wd t).map (fun p => !fs.isDir p)).getD false := by
  dsimp only [fileWorld]
  cases fs.resolve cfg wd t with
  | none => rfl
  | some p =>
    dsimp only [Option.map_some, Option.getD_some]
    cases fs.isDir p
    · rw [if_neg (by simp)]
      generalize (if fs.isFile p then fs else fs.write p ByteArray.empty) = fs1
      split <;> rfl
    · rfl

theorem removeTemp_cases (cfg : Cfg) (wd : Path) (src : Str) (fs fs' : FS) (t : Str)
    (h : (fileWorld cfg wd src).removeTemp fs t = some fs') :
    fs' = fs ∨ ∃ p, fs.resolve cfg wd t = some p ∧ fs' = fs.remove p := by
  dsimp only [fileWorld] at h
  cases hp : fs.resolve cfg wd t with
  | none => rw [hp] at h; cases h; exact Or.inl rfl
  | some p =>
    rw [hp] at h; dsimp only at h
    by_cases hf : fs.isFile p = true
    · rw [if_pos hf] at h; cases h; exact Or.inr ⟨p, rfl, rfl⟩
    · rw [if_neg hf] at h
      by_cases hd : fs.isDir p = true
      · rw [if_pos hd] at h; cases h
      · rw [if_neg hd] at h; cases h; exact Or.inl rfl

/-- whether `write_temp_file(target, "")` of clean mode succeeds or fails (a directory), no file is left at the target -/
theorem removeTemp_absent (cfg : Cfg) (wd : Path) (src : Str) (fs : FS) (t : Str) (p : Path)
    (hres : fs.resolve cfg wd t = some p) : (((fileWorld cfg wd src).removeTemp fs t).getD fs).file? p = none := by
  dsimp only [fileWorld]; rw [hres]; dsimp only
  by_cases hf : fs.isFile p = true
  · rw [if_pos hf]; exact file?_remove_same fs p
  · have : fs.file? p = none := by simpa [FS.isFile] using hf
    rw [if_neg hf]; split <;> exact this

theorem sinkStart_cases (mode : Mode) (fs fs1 : FS) (o : Path) (h : sinkStart mode fs o = some fs1) :
    fs1 = fs ∨ (mode = .build ∧ fs1 = fs.write o ByteArray.empty) ∨ (mode = .clean ∧ fs1 = fs.remove o) := by
  cases mode <;> dsimp only [sinkStart] at h
  · split at h <;> cases h; exact Or.inr (Or.inl ⟨rfl, rfl⟩)
  · cases h; exact Or.inl rfl
  · split at h
    · cases h; exact Or.inr (Or.inr ⟨rfl, rfl⟩)
    · split at h <;> cases h; exact Or.inl rfl
  · split at h <;> cases h; exact Or.inl rfl

theorem sinkEnd_eq (mode : Mode) (fs2 : FS) (o : Path) (new : ByteArray) :
    sinkEnd mode fs2 o new = (.ok, fs2) ∨ sinkEnd mode fs2 o new = (.err, fs2) ∨
      (mode ≠ .clean ∧ sinkEnd mode fs2 o new = (.ok, fs2.write o new)) := by
  cases mode <;> dsimp only [sinkEnd]
  · exact Or.inr (Or.inr ⟨nofun, rfl⟩)
  · split
    · exact Or.inr (Or.inl rfl)
    · split
      · exact Or.inl rfl
      · exact Or.inr (Or.inr ⟨nofun, rfl⟩)
  · exact Or.inl rfl
  · split
    · exact Or.inl rfl
    · exact Or.inr (Or.inl rfl)

theorem sinkEnd_cases (mode : Mode) (fs2 : FS) (o : Path) (new : ByteArray) :
    (sinkEnd mode fs2 o new).2 = fs2 ∨ (mode ≠ .clean ∧ (sinkEnd mode fs2 o new).2 = fs2.write o new) := by
  rcases sinkEnd_eq mode fs2 o new with e | e | ⟨hm, e⟩ <;> rw [e]
  · exact Or.inl rfl
  · exact Or.inl rfl
  · exact Or.inr ⟨hm, rfl⟩

theorem sinkEnd_ne_hasDeps (mode : Mode) (fs2 : FS) (o : Path) (new : ByteArray) (deps : List Str) :
    (sinkEnd mode fs2 o new).1 ≠ .hasDeps deps := by
  rcases sinkEnd_eq mode fs2 o new with e | e | ⟨_, e⟩ <;> rw [e] <;> nofun

/-! ### the four output sinks and the temp-file rule, case by case (C06, C08, C09, C10) -/

theorem sinkEnd_verify (fs2 : FS) (o : Path) (new : ByteArray) :
    (sinkEnd .verify fs2 o new).2 = fs2 ∧ ((sinkEnd .verify fs2 o new).1 = .ok ↔ fs2.file? o = some new) := by
  dsimp only [sinkEnd]
  by_cases h : fs2.file? o = some new <;> simp [h]

theorem sinkStart_verify (fs fs1 : FS) (o : Path) (h : sinkStart .verify fs o = some fs1) : fs1 = fs ∧ fs.pathExists o = true := by
  dsimp only [sinkStart] at h
  split at h
  · rename_i he; cases h; exact ⟨rfl, he⟩
  · simp at h

theorem sinkStart_build (fs fs1 : FS) (o : Path) (h : sinkStart .build fs o = some fs1) :
    fs1.file? o = some ByteArray.empty ∧ ∀ q, q ≠ o → fs1.file? q = fs.file? q := by
  dsimp only [sinkStart] at h
  split at h
  · simp at h
  · cases h; exact ⟨by simp, fun q hq => file?_write_other fs o q _ hq⟩

theorem sinkStart_build_eq {m : Mode} (hb : m = .build) {a : FS} {o : Path} (hd : a.isDir o = false) :
    sinkStart m a o = some (a.write o ByteArray.empty) := by
  subst hb; simp [sinkStart, hd]

theorem sinkEnd_build (fs2 : FS) (o : Path) (new : ByteArray) : sinkEnd .build fs2 o new = (.ok, fs2.write o new) := rfl

theorem sinkStart_build_notDir (fs fs1 : FS) (o : Path) (h : sinkStart .build fs o = some fs1) : fs.isDir o = false := by
  dsimp only [sinkStart] at h
  split at h
  · cases h
  · rename_i hx; simpa using hx

theorem sinkStart_clean_isSome (fs : FS) (o : Path) (h : fs.isDir o = false) : ∃ fs1, sinkStart .clean fs o = some fs1 := by
  simp only [sinkStart, h]; split <;> exact ⟨_, rfl⟩

theorem sinkStart_clean_absent (fs fs1 : FS) (o : Path) (h : sinkStart .clean fs o = some fs1) : fs1.file? o = none := by
  simp only [sinkStart] at h
  split at h
  · cases h; simp
  · rename_i hf
    split at h
    · cases h
    · cases h; simpa [FS.isFile] using hf

/-- `--needed`: an output whose content is already correct is not written (nothing is touched) -/
theorem sinkEnd_needed_same (fs2 : FS) (o : Path) (new : ByteArray) (hnd : fs2.isDir o = false)
    (h : fs2.file? o = some new) : sinkEnd .inMemory fs2 o new = (.ok, fs2) := by
  simp [sinkEnd, hnd, h]

/-- `--needed`: a stale or missing output is brought up to date -/
theorem sinkEnd_needed_stale (fs2 : FS) (o : Path) (new : ByteArray) (hnd : fs2.isDir o = false)
    (h : fs2.file? o ≠ some new) : sinkEnd .inMemory fs2 o new = (.ok, fs2.write o new) := by
  simp [sinkEnd, hnd, h]

/-- `--needed` and a normal build leave the same bytes at every path -/
theorem sinkEnd_needed_eq_build (fs2 : FS) (o : Path) (new : ByteArray) (hnd : fs2.isDir o = false) (q : Path) :
    (sinkEnd .inMemory fs2 o new).1 = (sinkEnd .build fs2 o new).1 ∧
    (sinkEnd .inMemory fs2 o new).2.file? q = (sinkEnd .build fs2 o new).2.file? q := by
  by_cases h : fs2.file? o = some new
  · rw [sinkEnd_needed_same fs2 o new hnd h]
    refine ⟨by simp [sinkEnd], ?_⟩
    dsimp only [sinkEnd]
    by_cases hq : q = o
    · subst hq; simp [h]
    · rw [file?_write_other fs2 o q new hq]
  · rw [sinkEnd_needed_stale fs2 o new hnd h]; simp [sinkEnd]

/-- the temp-file rule: after a successful `write_temp_file` the target holds exactly the new
    content, whatever it held before (absent, stale, arbitrary bytes) -/
theorem writeTemp_result (cfg : Cfg) (wd : Path) (src : Str) (fs fs' : FS) (t c : Str)
    (h : (fileWorld cfg wd src).writeTemp fs t c = some fs') :
    ∃ p, fs.resolve cfg wd t = some p ∧ fs'.file? p = some (encodeUtf8 c) :=
  let ⟨p, hp, _, _, hf⟩ := writeTemp_cases cfg wd src fs fs' t c h
  ⟨p, hp, hf⟩

/-- … and a temp file whose content is already correct is not rewritten (nothing is touched) -/
theorem writeTemp_same (cfg : Cfg) (wd : Path) (src : Str) (fs : FS) (t c : Str) (p : Path)
    (hp : fs.resolve cfg wd t = some p) (hnd : fs.isDir p = false) (h : fs.file? p = some (encodeUtf8 c)) :
    (fileWorld cfg wd src).writeTemp fs t c = some fs := by
  have hf : fs.isFile p = true := by simp [FS.isFile, h]
  simp [fileWorld, hp, hnd, hf, h]

/-- streaming verification (`CtxOut::Verify`: remaining-length counter, chunk-wise comparison,
    `rem = 0` at the end) over any alphabet -/
def verifyStream {α : Type} [DecidableEq α] : List α → List (List α) → Bool
  | rest, [] => rest.isEmpty
  | rest, c :: cs =>
    if rest.length < c.length then false
    else if rest.take c.length = c then verifyStream (rest.drop c.length) cs else false

theorem verifyStream_iff {α : Type} [DecidableEq α] (existing : List α) (chunks : List (List α)) :
    verifyStream existing chunks = true ↔ existing = chunks.flatten := by
  induction chunks generalizing existing with
  | nil => simp [verifyStream]
  | cons c cs ih =>
    simp only [verifyStream, List.flatten_cons]
    by_cases hl : existing.length < c.length
    · simp only [hl, if_true, Bool.false_eq_true, false_iff]
      intro h; rw [h] at hl; simp at hl; omega
    · simp only [hl, if_false]
      by_cases ht : existing.take c.length = c
      · simp only [ht, if_true, ih]
        constructor
        · intro h
          rw [← List.take_append_drop c.length existing, ht, h]
        · intro h
          rw [h]; simp
      · simp only [ht, if_false, Bool.false_eq_true, false_iff]
        intro h; apply ht; rw [h]; simp

end Txt
