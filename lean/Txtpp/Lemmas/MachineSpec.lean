import Txtpp.Model.Machine
/-! The streaming machine equals the specification (`machine_eq_spec`, C01). The proof follows the cases
    of `parse`, which are stated once here (`parse_ind` and the equation of each case) and serve the later
    inductions over `parse` that distinguish them. -/
namespace Refine
variable {D σ : Type}

/-! ### `parse`, case by case: a fresh line is rejected, opens a directive or is a text block; a line
    after an open directive continues it, or closes it and is then read afresh -/
section parse
variable (S : Sem D σ)

theorem parse_bad {l : Str} {d : D} (ls : List Str) (hd : S.detect l = some d) (hb : S.badStart d = true) :
    parse S none (l :: ls) = none := by simp only [parse, hd, hb, if_true]

theorem parse_start {l : Str} {d : D} (ls : List Str) (hd : S.detect l = some d) (hb : S.badStart d = false) :
    parse S none (l :: ls) = parse S (some d) ls := by simp only [parse, hd, hb, Bool.false_eq_true, if_false]

theorem parse_text {l : Str} (ls : List Str) (hd : S.detect l = none) :
    parse S none (l :: ls) = (parse S none ls).map (Block.text l :: ·) := by simp only [parse, hd]

theorem parse_cont {d d' : D} {l : Str} (ls : List Str) (ha : S.addLine d l = some d') :
    parse S (some d) (l :: ls) = parse S (some d') ls := by simp only [parse, ha]

theorem parse_close (d : D) (l ls) (ha : S.addLine d l = none) :
    parse S (some d) (l :: ls) = (parse S none (l :: ls)).map (Block.dir d false :: ·) := by
  simp only [parse, ha]
  cases hd : S.detect l with
  | some e => simp only; cases hb : S.badStart e <;> simp
  | none => simp only [Option.map_map]; rfl

theorem parse_ind {motive : Option D → List Str → Prop}
    (nil_none : motive none []) (nil_some : ∀ d, motive (some d) [])
    (bad : ∀ l ls d, S.detect l = some d → S.badStart d = true → motive none (l :: ls))
    (start : ∀ l ls d, S.detect l = some d → S.badStart d = false → motive (some d) ls → motive none (l :: ls))
    (text : ∀ l ls, S.detect l = none → motive none ls → motive none (l :: ls))
    (cont : ∀ d l ls d', S.addLine d l = some d' → motive (some d') ls → motive (some d) (l :: ls))
    (close : ∀ d l ls, S.addLine d l = none → motive none (l :: ls) → motive (some d) (l :: ls)) :
    ∀ (lines : List Str) (cur : Option D), motive cur lines := by
  intro lines
  induction lines with
  | nil => intro cur; cases cur with | none => exact nil_none | some d => exact nil_some d
  | cons l ls ih =>
    have fresh : motive none (l :: ls) := by
      cases hd : S.detect l with
      | none => exact text l ls hd (ih none)
      | some d =>
        cases hb : S.badStart d with
        | true => exact bad l ls d hd hb
        | false => exact start l ls d hd hb (ih (some d))
    intro cur
    cases cur with
    | none => exact fresh
    | some d =>
      cases ha : S.addLine d l with
      | some d' => exact cont d l ls d' ha (ih (some d'))
      | none => exact close d l ls ha fresh
end parse

/-- parse of a fresh line, as a function of the rest -/
def parseFresh (S : Sem D σ) (l : Str) (ls : List Str) : Option (List (Block D)) := parse S none (l :: ls)

/-- what is still to be computed from the blocks `bs` when the machine is in state `(st, pending, out)` -/
def rhs (S : Sem D σ) (t : Bool) (st : σ) (pending : Bool) (out : Str) (bs : List (Block D)) : Option (σ × Str) :=
  (eval S st bs).map (fun r => (r.1, out ++ render S.le t pending r.2))

theorem rhs_text (S : Sem D σ) (t st pending out l bs) :
    rhs S t st pending out (.text l :: bs) =
      match S.text st l with
      | (st', some l') => rhs S t st' true (out ++ (if pending then S.le else []) ++ l') bs
      | (st', none) => rhs S t st' pending out bs := by
  simp only [rhs, eval]
  rcases h : S.text st l with ⟨st', o⟩
  cases o with
  | none => simp
  | some l' =>
    simp only
    cases h2 : eval S st' bs <;> simp [render, List.append_assoc]

theorem rhs_dir (S : Sem D σ) (t st pending out d e bs) :
    rhs S t st pending out (.dir d e :: bs) =
      match S.exec st d with
      | none => none
      | some (st', none) => rhs S t st' pending out bs
      | some (st', some c) => rhs S t st' e (out ++ (if pending then S.le else []) ++ c) bs := by
  simp only [rhs, eval]
  rcases S.exec st d with _ | ⟨st', _ | c⟩
  · rfl
  · rfl
  · simp only; cases eval S st' bs <;> simp [render, List.append_assoc]

theorem feedAll_cons (S : Sem D σ) (m : MSt D σ) (l ls) :
    feedAll S m (l :: ls) = (feed S m l).bind (fun m' => feedAll S m' ls) := by
  simp only [feedAll]; cases feed S m l <;> rfl

/-- the refinement, generalised to every state of the machine: what the machine still does with the
    lines `ls` is what the specification does with their blocks -/
theorem key (S : Sem D σ) (t : Bool) : ∀ (ls : List Str) (cur : Option D) (st : σ) (pending : Bool) (out : Str),
    (feedAll S ⟨cur, st, pending, out⟩ ls).bind (finish S t) =
    (parse S cur ls).bind (rhs S t st pending out) := by
  refine parse_ind S ?_ ?_ ?_ ?_ ?_ ?_ ?_
  · intro st pending out; simp [feedAll, finish, parse, rhs, eval, render]
  · intro d st pending out
    simp only [feedAll, parse, Option.bind_some, finish, execD, rhs_dir]
    rcases S.exec st d with _ | ⟨st', _ | c⟩ <;> simp [rhs, eval, render, emit]
  · intro l ls d hd hb st pending out
    simp [feedAll_cons, feed, feedFresh, hd, hb, parse_bad S ls hd hb]
  · intro l ls d hd hb ih st pending out
    simp [feedAll_cons, feed, feedFresh, hd, hb, parse_start S ls hd hb, ih]
  · intro l ls hd ih st pending out
    rw [feedAll_cons, parse_text S ls hd, Option.bind_map]
    simp only [feed, feedFresh, hd, Function.comp_def, rhs_text]
    rcases S.text st l with ⟨st', _ | l'⟩ <;> simp only [Option.bind_some, emit, ih, Bool.not_false]
  · intro d l ls d' ha ih st pending out
    simp [feedAll_cons, feed, ha, parse_cont S ls ha, ih]
  · intro d l ls ha ih st pending out
    rw [feedAll_cons, parse_close S d l ls ha, Option.bind_map]
    simp only [feed, ha, execD, Function.comp_def, rhs_dir]
    have fresh : ∀ st' pending' out', ((feedFresh S ⟨none, st', pending', out'⟩ l).bind fun m' => feedAll S m' ls).bind (finish S t) =
        (parse S none (l :: ls)).bind (rhs S t st' pending' out') := by
      intro st' pending' out'
      have := ih st' pending' out'
      rwa [feedAll_cons] at this
    rcases S.exec st d with _ | ⟨st', _ | c⟩
    · cases parse S none (l :: ls) <;> rfl
    · exact fresh st' pending out
    · exact fresh st' false _

theorem machine_def (S : Sem D σ) (t : Bool) (s0 : σ) (lines : List Str) :
    machine S t s0 lines = (feedAll S ⟨none, s0, false, []⟩ lines).bind (finish S t) := by
  unfold machine; cases feedAll S ⟨none, s0, false, []⟩ lines <;> rfl

theorem spec_eq_bind (S : Sem D σ) (t : Bool) (s0 : σ) (lines : List Str) :
    spec S t s0 lines =
      (parse S none lines).bind fun bs => (eval S s0 bs).map fun r => (r.1, render S.le t false r.2) := by
  unfold spec
  cases parse S none lines with
  | none => rfl
  | some bs => dsimp only [Option.bind_some]; cases eval S s0 bs <;> rfl

theorem machine_eq_spec (S : Sem D σ) (t : Bool) (s0 : σ) (lines : List Str) :
    machine S t s0 lines = spec S t s0 lines := by
  rw [machine_def, spec_eq_bind]
  exact key S t lines none s0 false []

#print axioms machine_eq_spec
end Refine
