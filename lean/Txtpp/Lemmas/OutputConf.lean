import Txtpp.Lemmas.LineEnding
import Txtpp.Lemmas.InjectSpec
import Txtpp.Lemmas.TextIff
import Txtpp.Lemmas.AddLineIff
import Txtpp.Lemmas.PassInv
/-! C12, composition: if the source lines are terminator-free and every `\r` in included files and
    command output is followed by `\n`, then the whole output of a pass, and every temp content,
    uses only the source's line ending. The invariant of the line loop: the stored tag contents are CR-clean
    (`TagsCr`), the open directive carries terminator-free text (`DirClean`), the output so far is `LEonly le`. -/
namespace Txt
open Refine (Sem machine)
variable {W : Type}

/-- the substituted line keeps the line-ending discipline: pieces of a terminator-free line and normalised tag
    values -/
theorem substOut_LEonly (le line : Str) (hline : Clean line) (ms : List Match) (e : Nat)
    (hms : ∀ m ∈ ms, crDom m.2.2 = true) : LEonly le (substOut (replaceLE le) line ms e) := by
  induction ms generalizing e with
  | nil => exact LEonly_clean le (clean_of_subset (fun _ => List.mem_of_mem_drop) hline)
  | cons m ms ih =>
    obtain ⟨i, k, v⟩ := m
    exact LEonly_append _ _ _
      (LEonly_append _ _ _ (LEonly_clean le (clean_of_subset (fun _ h => List.mem_of_mem_drop (List.mem_of_mem_take h)) hline))
        (replaceLE_LEonly le v (hms (i, k, v) List.mem_cons_self)))
      (ih _ fun m hm => hms m (List.mem_cons_of_mem _ hm))

/-- in every stored tag value `\r` occurs only before `\n` -/
def TagsCr (t : TagState) : Prop := ∀ kv ∈ t.stored, crDom kv.2 = true

theorem injectLE_LEonly (le line : Str) (t : TagState) (hline : Clean line) (ht : TagsCr t) :
    LEonly le (t.injectLE le line).1 ∧ TagsCr (t.injectLE le line).2 := by
  rw [TagState.injectLE, inject_eq]
  refine ⟨substOut_LEonly le line hline _ 0 fun m hm => ?_, fun kv hkv => ht kv (List.mem_filter.1 hkv).1⟩
  exact ht _ (mem_select hm).1

/-- the open directive carries only terminator-free text -/
def DirClean (d : Directive) : Prop := Clean d.ws ∧ ∀ a ∈ d.args, Clean a

theorem detect_dirClean (l : Str) (d : Directive) (hl : Clean l) (h : detectFrom l = some d) : DirClean d := by
  obtain ⟨rest, after, name, hline, _, _, hrest, _, hname, _⟩ := (detectFrom_iff l d).1 h
  constructor
  · exact clean_of_subset (fun c hc => by rw [hline]; simp [hc]) hl
  · intro a ha
    rcases hname with ⟨_, _, hargs⟩ | ⟨r, hafter, _, hargs⟩
    · rw [hargs] at ha; simp at ha; subst ha; exact clean_nil
    · rw [hargs] at ha; simp at ha; subst ha
      exact clean_of_subset (fun c hc => by rw [hline, hrest, hafter]; simp [(trim_sublist r).subset hc]) hl

theorem addLine_dirClean (d d' : Directive) (l : Str) (hd : DirClean d) (hl : Clean l)
    (h : addLine d l = some d') : DirClean d' := by
  obtain ⟨_, a, ⟨rest, hline, hc⟩, rfl⟩ := (addLine_iff d d' l).1 h
  refine ⟨hd.1, ?_⟩
  intro x hx
  simp only [Directive.push, List.mem_append, List.mem_singleton] at hx
  rcases hx with hx | rfl
  · exact hd.2 x hx
  · rcases hc with ⟨_, rfl⟩ | ⟨r, hr, rfl⟩ | ⟨r, hr, rfl⟩
    · exact clean_nil
    all_goals exact clean_of_subset (fun c hc => by rw [hline, hr]; simp [(trimEnd_sublist r).subset hc]) hl

/-- what the outside world may hand to a pass: every `\r` is followed by `\n` -/
structure WorldCr (Wd : World W) : Prop where
  inc : ∀ w a c, Wd.readInclude w a = some c → crDom c = true
  run : ∀ w c out w', Wd.run w c = (some out, w') → crDom out = true

/-- `WorldCr` relative to an invariant `I` of the world, for a world whose answers depend on what the pass has
    written to it: while `I` holds what it hands out is CR-clean, and commands, temp writes of a body with one
    line ending and temp removals keep `I` -/
structure WorldCrOn (Wd : World W) (I : W → Prop) (le : Str) : Prop where
  inc : ∀ w a c, I w → Wd.readInclude w a = some c → crDom c = true
  run : ∀ w c out w', I w → Wd.run w c = (some out, w') → crDom out = true ∧ I w'
  writeTemp : ∀ w t c w', I w → LEonly le c → Wd.writeTemp w t c = some w' → I w'
  removeTemp : ∀ w t w', I w → Wd.removeTemp w t = some w' → I w'

theorem WorldCr.on {Wd : World W} (h : WorldCr Wd) (le : Str) : WorldCrOn Wd (fun _ => True) le :=
  ⟨fun w a c _ => h.inc w a c, fun w c out w' _ hr => ⟨h.run w c out w' hr, trivial⟩,
    fun _ _ _ _ _ _ _ => trivial, fun _ _ _ _ _ => trivial⟩

theorem routeOutput_facts (le : Str) (s : PpState W) (ws raw : Str) (hs : TagsCr s.tags) (hraw : crDom raw = true) (hws : Clean ws) :
    TagsCr (routeOutput le s ws raw).1.tags ∧ ∀ c, (routeOutput le s ws raw).2 = some c → LEonly le c := by
  unfold routeOutput
  cases ht : s.tags.tryStore raw with
  | none => exact ⟨hs, fun c hc => Option.some.inj hc ▸ formatOutput_LEonly le ws raw hraw hws⟩
  | some t' =>
    obtain ⟨tag, _, rfl⟩ := tryStore_some_iff.1 ht
    refine ⟨fun kv hkv => ?_, nofun⟩
    rcases List.mem_cons.1 hkv with rfl | hkv
    · exact hraw
    · exact hs kv (List.mem_filter.1 hkv).1

theorem execDirective_conf_on {Wd : World W} {I : W → Prop} {le : Str} (hW : WorldCrOn Wd I le)
    (mode : Mode) (s s' : PpState W) (d : Directive) (o : Option Str) (hs : TagsCr s.tags ∧ I s.w) (hd : DirClean d)
    (h : execDirective Wd mode le s d = some (s', o)) :
    (TagsCr s'.tags ∧ I s'.w) ∧ ∀ c, o = some c → LEonly le c := by
  rcases execDirective_some Wd mode le s s' d o h with ⟨rfl, rfl⟩ | ⟨_, _, _, _, _, rfl, rfl⟩ | ⟨w', _, _, ht, rfl, rfl⟩ |
    ⟨t', _, _, _, ht, rfl, rfl⟩ | ⟨raw, w', _, _, hr, rfl, rfl⟩
  · exact ⟨hs, nofun⟩
  · exact ⟨hs, nofun⟩
  · obtain ⟨t, body, hargs, _, ht⟩ := execTemp_some Wd le s.w w' d.args _ ht
    refine ⟨⟨hs.1, ?_⟩, nofun⟩
    split at ht
    · exact hW.removeTemp s.w t w' hs.2 ht
    · exact hW.writeTemp s.w t _ w' hs.2 (tempBody_LEonly le _ fun l hl => hd.2 l (hargs ▸ List.mem_cons_of_mem _ hl)) ht
  · exact ⟨⟨fun kv hkv => hs.1 kv (create_stored ht ▸ hkv), hs.2⟩, nofun⟩
  · have : crDom raw = true ∧ I w' := by
      rcases hr with ⟨_, hr⟩ | ⟨_, hr, rfl⟩ | ⟨_, rfl, rfl⟩
      · exact hW.run _ _ _ _ hs.2 hr
      · exact ⟨hW.inc _ _ _ hs.2 hr, hs.2⟩
      -- `write`: the argument lines joined by `\n` are `LEonly ['\n']`
      · exact ⟨LEonly_crDom (le := ['\n']) rfl (tempBody_LEonly _ d.args hd.2), hs.2⟩
    have hf := routeOutput_facts le { s with w := w' } d.ws raw hs.1 this.1 hd.1
    exact ⟨⟨hf.1, by rw [routeOutput_w]; exact this.2⟩, hf.2⟩

theorem output_conf_on {Wd : World W} {I : W → Prop} {le : Str} (hW : WorldCrOn Wd I le) (mode : Mode)
    (first trailing : Bool) (w : W) (hI : I w) (lines : List Str) (hlines : ∀ l ∈ lines, Clean l) (readOk : Bool) :
    PassPost I (ppPass Wd mode le first trailing w lines readOk) ∧
    ∀ out w', ppPass Wd mode le first trailing w lines readOk = .ok out w' → LEonly le out := by
  have key : ∀ s out, machine (txtppSem Wd mode le) trailing (startState first w) lines = some (s, out) →
      (TagsCr s.tags ∧ I s.w) ∧ LEonly le out := fun s out =>
    Refine.machine_out_inv (txtppSem Wd mode le) (fun s => TagsCr s.tags ∧ I s.w) DirClean (LEonly le) Clean
      (LEonly_nil le) (LEonly_le le) (LEonly_append le)
      (fun l d hl hd => detect_dirClean l d hl (Option.filter_eq_some_iff.1 (detect_eq Wd mode le l ▸ hd)).1)
      (fun d l d' hd hl ha => addLine_dirClean d d' l hd hl ha)
      (fun s d s' o hj hk he => execDirective_conf_on hW mode s s' d o hj hk he)
      (fun s l hj hl => by
        dsimp only [txtppSem]
        split
        · have hi := injectLE_LEonly le l s.tags hl hj.1
          exact ⟨⟨hi.2, hj.2⟩, fun l' h => Option.some.inj h ▸ hi.1⟩
        · exact ⟨hj, nofun⟩)
      trailing _ lines hlines ⟨fun kv hkv => by simp [TagState.empty] at hkv, hI⟩ s out
  refine ⟨ppPass_post Wd mode I le first trailing w lines readOk fun s out hm => (key s out hm).1.2, fun out w' h => ?_⟩
  obtain ⟨s, hm, _⟩ := ppPass_ok_inv h
  exact (key s out hm).2

/-- C12, composition: if the source lines are terminator-free (as `BufRead::lines` delivers them
    for a source in which CR occurs only before LF) and every `\r` in included files and command
    output is followed by `\n`, then the whole output of a pass consists of terminator-free pieces
    joined by `le`: every line terminator in it is the source's line ending. -/
theorem output_conf (Wd : World W) (hW : WorldCr Wd) (mode : Mode) (le : Str) (first trailing : Bool) (w : W)
    (lines : List Str) (hlines : ∀ l ∈ lines, Clean l) (out : Str) (w' : W)
    (h : ppPass Wd mode le first trailing w lines true = .ok out w') : LEonly le out :=
  (output_conf_on (hW.on le) mode first trailing w trivial lines hlines true).2 out w' h

end Txt
