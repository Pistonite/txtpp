import Txtpp.Model.Cli
import Txtpp.Model.Fs
/-! The guard at the top of `main` (src/main.rs) and the value `Shell::run` puts into `TXTPP_FILE`. -/
namespace Txt

theorem entry_none_iff (e : EnvVar) (p : CliParsed) :
    entry e p = none ↔ ∃ s, e = .val s ∧ s ≠ [] := by
  cases e with
  | val s => cases s <;> simp [entry, EnvVar.refuses]
  | _ => simp [entry, EnvVar.refuses]

theorem entry_some (e : EnvVar) (p : CliParsed) (c : RunConfig) (h : entry e p = some c) : c = p.config := by
  unfold entry at h
  split at h
  · cases h
  · exact (Option.some.inj h).symm

/-- the displayed path of a file is never empty: a path with at least two components contains a `/`, a path
    with one component is that (non-empty) name -/
theorem joinPath_file_ne_nil (dir : Path) (name : Str) (hn : name ≠ []) : joinPath (dir ++ [name]) ≠ [] := by
  cases dir with
  | nil => exact hn
  | cons d ds =>
    obtain ⟨x, xs, hds⟩ := List.exists_cons_of_ne_nil (List.append_ne_nil_of_right_ne_nil ds (List.cons_ne_nil name []))
    rw [List.cons_append, hds]
    simp [joinPath, joinWith]

end Txt
