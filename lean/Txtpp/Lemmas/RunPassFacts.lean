import Txtpp.Lemmas.FsFacts
import Txtpp.Lemmas.PassInv
import Txtpp.Model.Safe
/-! What one `preprocess` call (`runPass`) can do to the file system. A pass changes the file system
    only by writes (removals, when cleaning) at its output path and at the resolved targets of the `temp`
    blocks of its text, and by appending to the marker log. So every predicate that is closed under
    those primitive steps (`FsClosed`) holds after a pass if it held before (`runPass_closed`): the frame
    condition, the write scope, "clean executes nothing", "clean creates nothing" are instances of a few
    lines each. -/
namespace Txt
open Refine (Sem machine parse Block)

theorem parse_eq_srcBlocks {W : Type} (Wd : World W) (mode : Mode) (le : Str) (lines : List Str) :
    parse (txtppSem Wd mode le) none lines = srcBlocks mode lines :=
  Refine.parse_congr (txtppSem Wd mode le) (txtppSem nullWorld mode []) rfl rfl rfl lines none

/-- the line loop of the pass over `src`, whose bytes are `content`, started in `fs1` -/
abbrev srcPass (cfg : Cfg) (src : Path) (first : Bool) (content : ByteArray) (fs1 : FS) : PassResult FS :=
  ppPass (fileWorld cfg src.dropLast (joinPath src)) cfg.mode (sniffLE content.toList) first cfg.trailing fs1
    (decodeLines (byteLines content.toList)).1 (decodeLines (byteLines content.toList)).2

/-- what `runPassAt` makes of the result of the line loop: only a pass that ends `ok` closes the output -/
def closePass (mode : Mode) (o : Path) (fs1 : FS) : PassResult FS → Outcome × FS
  | .err => (.err, fs1)
  | .hasDeps deps fs2 => (.hasDeps deps, fs2)
  | .ok out fs2 => sinkEnd mode fs2 o (encodeUtf8 out)

theorem runPassAt_eq (cfg : Cfg) (fs : FS) (src : Path) (first : Bool) (content : ByteArray) (o : Path) :
    runPassAt cfg fs src first content o =
      match sinkStart cfg.mode fs o with
      | none => (.err, fs)
      | some fs1 => closePass cfg.mode o fs1 (srcPass cfg src first content fs1) := by
  unfold runPassAt
  cases sinkStart cfg.mode fs o with
  | none => rfl
  | some fs1 => dsimp only; split <;> simp only [closePass, srcPass, *]

theorem runPass_eq (cfg : Cfg) (fs : FS) (src : Path) (first : Bool) (content : ByteArray) (o : Path)
    (hfile : fs.file? src = some content) (hout : outputPath src = some o) :
    runPass cfg fs src first = runPassAt cfg fs src first content o := by
  unfold runPass; rw [hfile, hout]

theorem runPass_nosrc (cfg : Cfg) (a : FS) (src : Path) (first : Bool) (hn : a.file? src = none ∨ outputPath src = none) :
    runPass cfg a src first = (.err, a) := by
  unfold runPass
  rcases hn with hn | hn
  · rw [hn]
  · rw [hn]; cases a.file? src <;> rfl

theorem srcPass_parse_none (cfg : Cfg) (src : Path) (first : Bool) (content : ByteArray) (fs1 : FS)
    (h : srcBlocks cfg.mode (decodeLines (byteLines content.toList)).1 = none) : srcPass cfg src first content fs1 = .err := by
  unfold srcPass
  cases (decodeLines (byteLines content.toList)).2 with
  | false => rfl
  | true => rw [ppPass_eq, Refine.machine_eq_bind, parse_eq_srcBlocks, h]; rfl

theorem closePass_hasDeps {mode : Mode} {o : Path} {fs1 : FS} {r : PassResult FS} {deps : List Str}
    (h : (closePass mode o fs1 r).1 = .hasDeps deps) : ∃ fs2, r = .hasDeps deps fs2 := by
  cases r with
  | err => cases h
  | hasDeps d fs2 => cases h; exact ⟨fs2, rfl⟩
  | ok out fs2 => exact absurd h (sinkEnd_ne_hasDeps mode fs2 o _ deps)

/-- a pass does nothing at all (unreadable source, no txtpp name, output that cannot be opened), or it
    is the line loop between opening and closing the output -/
theorem runPass_cases (cfg : Cfg) (fs : FS) (src : Path) (first : Bool) :
    runPass cfg fs src first = (.err, fs) ∨
    ∃ content o fs1, fs.file? src = some content ∧ outputPath src = some o ∧ sinkStart cfg.mode fs o = some fs1 ∧
      runPass cfg fs src first = closePass cfg.mode o fs1 (srcPass cfg src first content fs1) := by
  unfold runPass
  split
  · rename_i content o hfile hout
    rw [runPassAt_eq]
    cases hs : sinkStart cfg.mode fs o with
    | none => exact Or.inl rfl
    | some fs1 => exact Or.inr ⟨content, o, fs1, hfile, hout, hs, rfl⟩
  · exact Or.inl rfl

theorem runPass_ok_inv (cfg : Cfg) (fs : FS) (src : Path) (first : Bool) (fs' : FS) (h : runPass cfg fs src first = (.ok, fs')) :
    ∃ content o fs1 out fs2, fs.file? src = some content ∧ outputPath src = some o ∧ sinkStart cfg.mode fs o = some fs1 ∧
      srcPass cfg src first content fs1 = .ok out fs2 ∧ sinkEnd cfg.mode fs2 o (encodeUtf8 out) = (.ok, fs') := by
  rcases runPass_cases cfg fs src first with e | ⟨content, o, fs1, hfile, hout, hstart, e⟩ <;> rw [e] at h
  · cases h
  · unfold closePass at h
    split at h
    · cases h
    · cases h
    · rename_i out fs2 hr; exact ⟨content, o, fs1, out, fs2, hfile, hout, hstart, hr, h⟩

/-- `p` is the resolution, from directory `wd`, of the target of a `temp` block of the source text -/
def TempTarget (cfg : Cfg) (fs : FS) (wd : Path) (lines : List Str) (p : Path) : Prop :=
  ∃ bs d e target body, srcBlocks cfg.mode lines = some bs ∧ Block.dir d e ∈ bs ∧ d.ty = .temp ∧
    d.args = target :: body ∧ isTxtppPath target = false ∧ fs.resolve cfg wd target = some p

/-- the targets depend on the configuration through the mode (the grouping into blocks) and the base
    path, and on the file system through its directories -/
theorem TempTarget_congr (cfg cfg' : Cfg) (fs fs' : FS) (wd : Path) (lines : List Str) (p : Path) (hd : fs'.dirs = fs.dirs)
    (hb : cfg'.baseAbs = cfg.baseAbs) (hs : srcBlocks cfg'.mode lines = srcBlocks cfg.mode lines)
    (ht : TempTarget cfg' fs' wd lines p) : TempTarget cfg fs wd lines p := by
  obtain ⟨bs, d, e, t, body, h1, h2, h3, h4, h5, h6⟩ := ht
  exact ⟨bs, d, e, t, body, hs ▸ h1, h2, h3, h4, h5,
    by rw [← resolve_dirs fs fs' cfg wd t hd, ← resolve_congr cfg cfg' hb]; exact h6⟩

theorem TempTarget_dirs (cfg : Cfg) (fs fs' : FS) (wd : Path) (lines : List Str) (p : Path) (h : fs'.dirs = fs.dirs)
    (ht : TempTarget cfg fs' wd lines p) : TempTarget cfg fs wd lines p :=
  TempTarget_congr cfg cfg fs fs' wd lines p h rfl rfl ht

/-- what a pass over the source `src` with bytes `content` may touch: its output path and the
    resolved targets of the `temp` blocks of its text -/
def PassScope (cfg : Cfg) (fs : FS) (src : Path) (content : ByteArray) (p : Path) : Prop :=
  outputPath src = some p ∨ TempTarget cfg fs src.dropLast (decodeLines (byteLines content.toList)).1 p

/-- `PassScope` for the bytes `src` has in `fs` (no path is allowed if `src` cannot be read) -/
def PassAllowed (cfg : Cfg) (fs : FS) (src : Path) (p : Path) : Prop :=
  ∃ content, fs.file? src = some content ∧ PassScope cfg fs src content p

/-- `I` is preserved by the primitive steps a pass in `mode` can take at the paths `A`: writes and
    log changes outside clean mode, removals in clean mode -/
structure FsClosed (mode : Mode) (A : Path → Prop) (I : FS → Prop) : Prop where
  write  : mode ≠ .clean → ∀ fs p b, A p → I fs → I (fs.write p b)
  remove : mode = .clean → ∀ fs p, A p → I fs → I (fs.remove p)
  log    : mode ≠ .clean → ∀ fs l, I fs → I { fs with log := l }

namespace FsClosed
variable {mode : Mode} {A : Path → Prop} {I : FS → Prop}

/-- none of the primitive steps changes the directories: `dirs = fs0.dirs` can always be carried
    along, which keeps the resolution of temp targets fixed during the pass -/
theorem and_dirs (h : FsClosed mode A I) (fs0 : FS) : FsClosed mode A (fun fs => I fs ∧ fs.dirs = fs0.dirs) :=
  ⟨fun hm fs p b hp hi => ⟨h.write hm fs p b hp hi.1, hi.2⟩, fun hm fs p hp hi => ⟨h.remove hm fs p hp hi.1, hi.2⟩,
   fun hm fs l hi => ⟨h.log hm fs l hi.1, hi.2⟩⟩

theorem writtenAt (h : FsClosed mode A I) (hm : mode ≠ .clean) {p : Path} (hp : A p) {B : ByteArray → Prop} {fs fs' : FS}
    (hw : WrittenAt p B fs fs') (hI : I fs) : I fs' := by
  induction hw with
  | same => exact hI
  | write b _ _ ih => exact h.write hm _ p b hp ih

theorem run (h : FsClosed mode A I) (hm : mode ≠ .clean) (cfg : Cfg) (wd : Path) (src : Str) (fs : FS) (cmd : Str)
    (hI : I fs) : I ((fileWorld cfg wd src).run fs cmd).2 := by
  obtain ⟨l, hl⟩ := fileWorld_run_fs cfg wd src fs cmd
  rw [hl]; exact h.log hm fs l hI

theorem sinkStart (h : FsClosed mode A I) {fs fs1 : FS} {o : Path} (ho : A o) (hs : sinkStart mode fs o = some fs1)
    (hI : I fs) : I fs1 := by
  rcases sinkStart_cases mode fs fs1 o hs with rfl | ⟨hm, rfl⟩ | ⟨hm, rfl⟩
  · exact hI
  · exact h.write (by rw [hm]; decide) fs o _ ho hI
  · exact h.remove hm fs o ho hI

theorem sinkEnd (h : FsClosed mode A I) {fs2 : FS} {o : Path} (new : ByteArray) (ho : A o) (hI : I fs2) :
    I (sinkEnd mode fs2 o new).2 := by
  rcases sinkEnd_cases mode fs2 o new with e | ⟨hm, e⟩ <;> rw [e]
  · exact hI
  · exact h.write hm fs2 o new ho hI

/-- the operations of `fileWorld`, for the directive `d`: its temp target has to be allowed when
    resolved in the file system `fs0` the pass started from (same directories) -/
theorem opsPreserveAt (h : FsClosed mode A I) (cfg : Cfg) (wd : Path) (src : Str) (fs0 : FS) (d : Directive)
    (hA : ∀ t body p, d.ty = .temp → d.args = t :: body → isTxtppPath t = false → fs0.resolve cfg wd t = some p → A p) :
    OpsPreserveAt (fileWorld cfg wd src) mode (fun fs => I fs ∧ fs.dirs = fs0.dirs) d where
  run := fun hm fs c hI => (h.and_dirs fs0).run hm cfg wd src fs c hI
  writeTemp := by
    intro hm hty fs t body c fs' hargs hnt hI hw
    obtain ⟨p, hres, _, hwr, _⟩ := writeTemp_cases cfg wd src fs fs' t c hw
    have hp : A p := hA t body p hty hargs hnt (by rw [← resolve_dirs fs0 fs cfg wd t hI.2]; exact hres)
    exact (h.and_dirs fs0).writtenAt hm hp hwr hI
  removeTemp := by
    intro hm hty fs t body fs' hargs hnt hI hr
    rcases removeTemp_cases cfg wd src fs fs' t hr with rfl | ⟨p, hres, rfl⟩
    · exact hI
    · exact (h.and_dirs fs0).remove hm fs p
        (hA t body p hty hargs hnt (by rw [← resolve_dirs fs0 fs cfg wd t hI.2]; exact hres)) hI

/-- with every path allowed, no bookkeeping of the directories is needed -/
theorem opsPreserve (h : FsClosed mode (fun _ => True) I) (cfg : Cfg) (wd : Path) (src : Str) :
    OpsPreserve (fileWorld cfg wd src) mode I where
  run := fun hm fs c hI => h.run hm cfg wd src fs c hI
  writeTemp := by
    intro hm fs t c fs' hI hw
    obtain ⟨p, _, _, hwr, _⟩ := writeTemp_cases cfg wd src fs fs' t c hw
    exact h.writtenAt hm trivial hwr hI
  removeTemp := by
    intro hm fs t fs' hI hr
    rcases removeTemp_cases cfg wd src fs fs' t hr with rfl | ⟨p, _, rfl⟩
    · exact hI
    · exact h.remove hm fs p trivial hI

end FsClosed

/-- `fs0`: the tree whose directories fix the resolution of the temp targets (what `runPass` started from); `fs1`:
    the tree the line loop starts in (after opening the output); `A` must allow the targets as resolved in `fs0` -/
theorem ppPass_closed (cfg : Cfg) (wd : Path) (src : Str) (le : Str) (first : Bool) (fs0 fs1 : FS) (A : Path → Prop)
    (I : FS → Prop) (lines : List Str) (readOk : Bool) (h : FsClosed cfg.mode A I)
    (hA : ∀ p, TempTarget cfg fs0 wd lines p → A p) (hI : I fs1) (hd : fs1.dirs = fs0.dirs) :
    PassPost (fun fs => I fs ∧ fs.dirs = fs0.dirs)
      (ppPass (fileWorld cfg wd src) cfg.mode le first cfg.trailing fs1 lines readOk) :=
  ppPass_inv_at (fileWorld cfg wd src) cfg.mode _ le first cfg.trailing fs1 lines readOk
    (fun bs d e hb hmem => h.opsPreserveAt cfg wd src fs0 d
      (fun t body p hty hargs hnt hres =>
        hA p ⟨bs, d, e, t, body, by rw [← parse_eq_srcBlocks]; exact hb, hmem, hty, hargs, hnt, hres⟩))
    ⟨hI, hd⟩

theorem runPass_closed (cfg : Cfg) (fs : FS) (src : Path) (first : Bool) (I : FS → Prop)
    (h : FsClosed cfg.mode (PassAllowed cfg fs src) I) (hI : I fs) : I (runPass cfg fs src first).2 := by
  -- carried along: the directories do not change, so temp targets resolve during the pass as they do in `fs`
  suffices hs : I (runPass cfg fs src first).2 ∧ (runPass cfg fs src first).2.dirs = fs.dirs from hs.1
  rcases runPass_cases cfg fs src first with e | ⟨content, o, fs1, hfile, hout, hstart, e⟩ <;> rw [e]
  · exact ⟨hI, rfl⟩
  · have hAo : PassAllowed cfg fs src o := ⟨content, hfile, Or.inl hout⟩
    have h1 := (h.and_dirs fs).sinkStart hAo hstart ⟨hI, rfl⟩
    have hpass : PassPost _ (srcPass cfg src first content fs1) :=
      ppPass_closed cfg src.dropLast (joinPath src) (sniffLE content.toList) first fs fs1 _ I
        (decodeLines (byteLines content.toList)).1 (decodeLines (byteLines content.toList)).2 h
        (fun p hp => ⟨content, hfile, Or.inr hp⟩) h1.1 h1.2
    unfold closePass
    split
    · exact h1
    · rename_i hr; rw [hr] at hpass; exact hpass
    · rename_i hr; rw [hr] at hpass; exact (h.and_dirs fs).sinkEnd _ hAo hpass

theorem untouched_closed (mode : Mode) (A : Path → Prop) (fs0 : FS) : FsClosed mode A (Untouched fs0) :=
  ⟨fun _ fs p b _ h => Untouched.write fs0 fs p b h, fun _ fs p _ h => Untouched.remove fs0 fs p h, fun _ _ _ h => h⟩

theorem cleanLog_closed {mode : Mode} (hm : mode = .clean) (A : Path → Prop) (l0 : List Str) :
    FsClosed mode A (fun fs => fs.log = l0) :=
  ⟨fun h => absurd hm h, fun _ _ _ _ h => h, fun h => absurd hm h⟩

theorem cleanAbsent_closed {mode : Mode} (hm : mode = .clean) (A : Path → Prop) (q : Path) :
    FsClosed mode A (fun fs => fs.file? q = none) := by
  refine ⟨fun h => absurd hm h, fun _ fs p _ h => ?_, fun h => absurd hm h⟩
  by_cases hq : q = p
  · subst hq; simp
  · rw [file?_remove_other fs p q hq]; exact h

/-- C10 (model side): after any pass in any mode, every path that is not in the touch set has the
    bytes it had before — the touch set (compared with inode/mtime changes of the real run by the
    correspondence) is a sound record of what was written or removed. -/
theorem runPass_untouched (cfg : Cfg) (fs : FS) (src : Path) (first : Bool) :
    Untouched fs (runPass cfg fs src first).2 :=
  runPass_closed cfg fs src first _ (untouched_closed _ _ fs) (Untouched.refl fs)

/-- C07: a clean pass executes nothing — the marker log is unchanged -/
theorem runPass_clean_log (cfg : Cfg) (fs : FS) (src : Path) (first : Bool) (hm : cfg.mode = .clean) :
    (runPass cfg fs src first).2.log = fs.log :=
  runPass_closed cfg fs src first _ (cleanLog_closed hm _ fs.log) rfl

theorem dirs_closed (mode : Mode) (A : Path → Prop) (fs0 : FS) : FsClosed mode A (fun fs => fs.dirs = fs0.dirs) :=
  ⟨fun _ _ _ _ _ h => h, fun _ _ _ _ h => h, fun _ _ _ h => h⟩

/-- clean never creates a file -/
theorem removeTemp_creates_nothing (cfg : Cfg) (wd : Path) (src : Str) (q : Path) :
    OpsPreserve (fileWorld cfg wd src) .clean (fun fs => fs.file? q = none) := (cleanAbsent_closed rfl _ q).opsPreserve cfg wd src

/-- the configuration with the trailing-newline option set to `t` (C13) -/
def Cfg.withTrailing (cfg : Cfg) (t : Bool) : Cfg := { cfg with trailing := t }

end Txt
