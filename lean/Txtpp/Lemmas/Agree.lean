import Txtpp.Lemmas.FsFacts
import Txtpp.Model.Safe
/-! Two file systems that differ only at a set `S` of stale paths (`Agree S a b`), and what the
    operations of a pass do from two such states: as long as an operation reads no path of `S` it answers
    the same on both sides, and a path written on both sides leaves the stale set. -/
namespace Txt

/-- two file systems with the same directories that hold the same file (or none) at every path
    outside the stale set `S` -/
def Agree (S : List Path) (a b : FS) : Prop := a.dirs = b.dirs ∧ ∀ q, q ∉ S → a.file? q = b.file? q

namespace Agree
variable {S S' : List Path} {a b c : FS}

theorem refl (S : List Path) (a : FS) : Agree S a a := ⟨rfl, fun _ _ => rfl⟩

theorem nil (h : Agree [] a b) (q : Path) : a.file? q = b.file? q := h.2 q List.not_mem_nil

theorem symm (h : Agree S a b) : Agree S b a := ⟨h.1.symm, fun q hq => (h.2 q hq).symm⟩

theorem trans (h : Agree S a b) (h' : Agree S b c) : Agree S a c :=
  ⟨h.1.trans h'.1, fun q hq => (h.2 q hq).trans (h'.2 q hq)⟩

theorem mono (h : Agree S a b) (hs : ∀ q, q ∈ S → q ∈ S') : Agree S' a b :=
  ⟨h.1, fun q hq => h.2 q (fun hm => hq (hs q hm))⟩

theorem of_filter {f : Path → Bool} (h : Agree (S.filter f) a b) : Agree S a b := h.mono fun _ hq => (List.mem_filter.1 hq).1

theorem isDir (h : Agree S a b) (p : Path) : a.isDir p = b.isDir p := isDir_dirs h.1 p

theorem isFile (h : Agree S a b) (p : Path) (hp : p ∉ S) : a.isFile p = b.isFile p := by
  simp only [FS.isFile, h.2 p hp]

/-- `p` is fresh once both sides hold the same at `p` and are otherwise as they were -/
theorem fresh {a' b' : FS} {p : Path} (h : Agree S a b)
    (ha : a'.dirs = a.dirs ∧ ∀ q, q ≠ p → a'.file? q = a.file? q) (hb : b'.dirs = b.dirs ∧ ∀ q, q ≠ p → b'.file? q = b.file? q)
    (hp : a'.file? p = b'.file? p) : Agree (S.filter (· != p)) a' b' := by
  refine ⟨by rw [ha.1, hb.1]; exact h.1, fun q hq => ?_⟩
  by_cases hqp : q = p
  · rw [hqp]; exact hp
  · rw [ha.2 q hqp, hb.2 q hqp]
    exact h.2 q (fun hm => hq (List.mem_filter.2 ⟨hm, by simpa using hqp⟩))

theorem write (h : Agree S a b) (p : Path) (x : ByteArray) : Agree (S.filter (· != p)) (a.write p x) (b.write p x) :=
  h.fresh ⟨rfl, fun q hq => file?_write_other a p q x hq⟩ ⟨rfl, fun q hq => file?_write_other b p q x hq⟩ (by simp)

theorem write_mem (a : FS) (o : Path) (x : ByteArray) (ho : o ∈ S) : Agree S a (a.write o x) :=
  ⟨rfl, fun q hq => (file?_write_other a o q x (fun e => hq (e ▸ ho))).symm⟩

theorem write_left (h : Agree S a b) (o : Path) {x : ByteArray} : Agree (o :: S) (a.write o x) b :=
  (write_mem a o x List.mem_cons_self).symm.trans (h.mono fun _ => List.mem_cons_of_mem _)

theorem remove_mem (a : FS) (o : Path) (ho : o ∈ S) : Agree S a (a.remove o) :=
  ⟨rfl, fun q hq => (file?_remove_other a o q (fun e => hq (e ▸ ho))).symm⟩

end Agree

theorem Agree.resolve {S : List Path} {a b : FS} (h : Agree S a b) (cfg : Cfg) (wd : Path) (t : Str) :
    a.resolve cfg wd t = b.resolve cfg wd t := (resolve_dirs b a cfg wd t h.1)

/-- stdout and status of one action read the tree through `resolve`, and through `file?` at the path a `cat` reads -/
theorem runAct_rel (cfg : Cfg) (wd : Path) (src : Str) (S : List Path) (a b : FS) (hag : Agree S a b) (k arg : Str)
    (hcat : k = "cat".toList → ∀ p, a.resolve cfg wd arg = some p → p ∉ S) :
    (runAct cfg wd src a k arg).1 = (runAct cfg wd src b k arg).1 ∧
    (runAct cfg wd src a k arg).2.1 = (runAct cfg wd src b k arg).2.1 := by
  unfold runAct
  by_cases h1 : k = "lit".toList
  · rw [if_pos h1, if_pos h1]; exact ⟨rfl, rfl⟩
  rw [if_neg h1, if_neg h1]
  by_cases h2 : k = "cat".toList
  · rw [if_pos h2, if_pos h2, ← hag.resolve cfg wd arg]
    cases hr : a.resolve cfg wd arg with
    | none => exact ⟨rfl, rfl⟩
    | some p => dsimp only; rw [← hag.2 p (hcat h2 p hr)]; cases a.file? p <;> exact ⟨rfl, rfl⟩
  -- the other kinds do not look at the tree
  rw [if_neg h2, if_neg h2]
  by_cases h3 : k = "mark".toList
  · rw [if_pos h3, if_pos h3]; exact ⟨rfl, rfl⟩
  rw [if_neg h3, if_neg h3]
  by_cases h4 : k = "pwd".toList
  · rw [if_pos h4, if_pos h4]; exact ⟨rfl, rfl⟩
  rw [if_neg h4, if_neg h4]
  by_cases h5 : k = "file".toList
  · rw [if_pos h5, if_pos h5]; exact ⟨rfl, rfl⟩
  rw [if_neg h5, if_neg h5]
  by_cases h6 : k = "true".toList
  · rw [if_pos h6, if_pos h6]; exact ⟨rfl, rfl⟩
  rw [if_neg h6, if_neg h6]; exact ⟨rfl, rfl⟩

theorem runActs_rel (cfg : Cfg) (wd : Path) (src : Str) (S : List Path) (fs0 : FS) :
    ∀ (acts : List (Str × Str)) (a b : FS) (out : ByteArray) (ok : Bool), Agree S a b → a.dirs = fs0.dirs →
      (∀ p ∈ catReads cfg fs0 wd acts, p ∉ S) →
      (runActs cfg wd src a acts out ok).1 = (runActs cfg wd src b acts out ok).1 ∧
      (runActs cfg wd src a acts out ok).2.1 = (runActs cfg wd src b acts out ok).2.1 := by
  intro acts
  induction acts with
  | nil => intro a b out ok _ _ _; exact ⟨rfl, rfl⟩
  | cons ka rest ih =>
    intro a b out ok hag hd hc
    obtain ⟨k, arg⟩ := ka
    have h1 := runAct_rel cfg wd src S a b hag k arg (fun hk p hr =>
      hc p (List.mem_filterMap.2 ⟨(k, arg), List.mem_cons_self, by rw [if_pos hk, ← resolve_dirs fs0 a cfg wd arg hd]; exact hr⟩))
    -- an action leaves the tree as it is, up to the log
    rw [runActs_cons, runActs_cons, h1.1, h1.2, runAct_fs cfg wd src a, runAct_fs cfg wd src b]
    exact ih _ _ _ _ hag hd (fun p hp => hc p (List.mem_filterMap.2 (by
      obtain ⟨x, hx, hxp⟩ := List.mem_filterMap.1 hp; exact ⟨x, List.mem_cons_of_mem _ hx, hxp⟩)))

theorem run_rel (cfg : Cfg) (wd : Path) (src : Str) {S : List Path} {fs0 a b : FS} (cmd : Str) (hag : Agree S a b)
    (hd : a.dirs = fs0.dirs) (hc : ∀ p ∈ cmdReads cfg fs0 wd cmd, p ∉ S) :
    ((fileWorld cfg wd src).run a cmd).1 = ((fileWorld cfg wd src).run b cmd).1 := by
  dsimp only [fileWorld]
  unfold cmdReads at hc
  cases hf : cfg.cmds.find? (fun kv => kv.1 == cmd) with
  | none => rfl
  | some kv =>
    obtain ⟨c, acts⟩ := kv
    rw [hf] at hc
    obtain ⟨h1, h2⟩ := runActs_rel cfg wd src S fs0 acts a b ByteArray.empty true hag hd hc
    dsimp only
    rw [h1, h2]
    split <;> rfl

theorem Agree.run {S : List Path} {a b : FS} (h : Agree S a b) (cfg : Cfg) (wd : Path) (src : Str) (cmd cmd' : Str) :
    Agree S ((fileWorld cfg wd src).run a cmd).2 ((fileWorld cfg wd src).run b cmd').2 := by
  obtain ⟨l, hl⟩ := fileWorld_run_fs cfg wd src a cmd
  obtain ⟨l', hl'⟩ := fileWorld_run_fs cfg wd src b cmd'
  rw [hl, hl']; exact h

theorem readInclude_rel (cfg : Cfg) (wd : Path) (src : Str) {S : List Path} {fs0 a b : FS} (arg : Str) (hag : Agree S a b)
    (hd : a.dirs = fs0.dirs) (hc : ∀ p, fs0.resolve cfg wd arg = some p → p ∉ S) :
    (fileWorld cfg wd src).readInclude a arg = (fileWorld cfg wd src).readInclude b arg := by
  dsimp only [fileWorld]
  rw [← hag.resolve cfg wd arg]
  cases hr : a.resolve cfg wd arg with
  | none => rfl
  | some p =>
    simp only
    rw [hag.2 p (hc p (by rw [← resolve_dirs fs0 a cfg wd arg hd]; exact hr))]

theorem none_or_some_of_isSome_eq {α β : Type} : ∀ {x : Option α} {y : Option β}, x.isSome = y.isSome →
    (x = none ∧ y = none) ∨ ∃ a b, x = some a ∧ y = some b
  | none, none, _ => Or.inl ⟨rfl, rfl⟩
  | some a, some b, _ => Or.inr ⟨a, b, rfl, rfl⟩

/-- `write_temp_file` from two states with the same directories: both fail, or both succeed, and whatever
    set the two states agreed outside, the target has left it -/
theorem writeTemp_rel (cfg : Cfg) (wd : Path) (src : Str) (a b : FS) (t c : Str) (hd : a.dirs = b.dirs) :
    ((fileWorld cfg wd src).writeTemp a t c = none ∧ (fileWorld cfg wd src).writeTemp b t c = none) ∨
    ∃ p a' b', a.resolve cfg wd t = some p ∧ (fileWorld cfg wd src).writeTemp a t c = some a' ∧
      (fileWorld cfg wd src).writeTemp b t c = some b' ∧ a'.dirs = a.dirs ∧
      ∀ T, Agree T a b → Agree (T.filter (· != p)) a' b' := by
  have hs : ((fileWorld cfg wd src).writeTemp a t c).isSome = ((fileWorld cfg wd src).writeTemp b t c).isSome := by
    rw [writeTemp_isSome, writeTemp_isSome, resolve_dirs b a cfg wd t hd]; simp only [isDir_dirs hd]
  rcases none_or_some_of_isSome_eq hs with h | ⟨a', b', ha, hb⟩
  · exact Or.inl h
  · obtain ⟨p, hpa, _, hwa, hfa⟩ := writeTemp_cases cfg wd src a a' t c ha
    obtain ⟨p', hpb, _, hwb, hfb⟩ := writeTemp_cases cfg wd src b b' t c hb
    rw [← resolve_dirs b a cfg wd t hd, hpa] at hpb
    cases hpb
    exact Or.inr ⟨p, a', b', hpa, ha, hb, hwa.frame.1, fun T hT => hT.fresh hwa.frame hwb.frame (hfa.trans hfb.symm)⟩

/-- a `temp` block: `writeTemp_rel` at its target, which is no txtpp name -/
theorem execTemp_rel (cfg : Cfg) (wd : Path) (src : Str) (le : Str) (a b : FS) (args : List Str) (hd : a.dirs = b.dirs) :
    (execTemp (fileWorld cfg wd src) le a args false = none ∧ execTemp (fileWorld cfg wd src) le b args false = none) ∨
    ∃ t body p a' b', args = t :: body ∧ isTxtppPath t = false ∧ a.resolve cfg wd t = some p ∧
      execTemp (fileWorld cfg wd src) le a args false = some a' ∧ execTemp (fileWorld cfg wd src) le b args false = some b' ∧
      a'.dirs = a.dirs ∧ ∀ T, Agree T a b → Agree (T.filter (· != p)) a' b' := by
  unfold execTemp
  cases args with
  | nil => exact Or.inl ⟨rfl, rfl⟩
  | cons t body =>
    dsimp only
    cases hnt : isTxtppPath t
    · rw [if_neg (by simp), if_neg (by simp), if_neg (by simp), if_neg (by simp)]
      rcases writeTemp_rel cfg wd src a b t (joinWith le body) hd with h | ⟨p, a', b', h⟩
      · exact Or.inl h
      · exact Or.inr ⟨t, body, p, a', b', rfl, hnt, h⟩
    · exact Or.inl ⟨rfl, rfl⟩

/-- `get_txtpp_file` tries the candidate names in order -/
theorem getTxtppFile_eq_find (ex : Str → Bool) (n : Str) : PathName.getTxtppFile ex n = (nameCands n).find? ex := by
  unfold PathName.getTxtppFile nameCands
  split
  · rfl
  · cases PathName.extension n with
    | none => dsimp only [List.find?]; cases ex _ <;> rfl
    | some e =>
      dsimp only [List.find?]
      cases ex (PathName.setExtension n (e ++ '.' :: PathName.txtpp))
      · cases ex _ <;> rfl
      · rfl

theorem getTxtppFile_congr (ex ex' : Str → Bool) (n : Str) (h : ∀ c ∈ nameCands n, ex c = ex' c) :
    PathName.getTxtppFile ex n = PathName.getTxtppFile ex' n := by
  rw [getTxtppFile_eq_find, getTxtppFile_eq_find, ← List.head?_filter, ← List.head?_filter, List.filter_congr h]

theorem depOf_rel (cfg : Cfg) (wd : Path) (a b : FS) (arg : Str) (hd : a.dirs = b.dirs)
    (hp : ∀ p ∈ depProbes cfg a wd arg, a.isFile p = b.isFile p) :
    a.depOf cfg wd arg = b.depOf cfg wd arg := by
  unfold FS.depOf
  unfold depProbes at hp
  cases hs : depSplit cfg wd arg with
  | none => rfl
  | some pn =>
    obtain ⟨parentComps, name⟩ := pn
    simp only [hs] at hp ⊢
    have hw : ∀ comps cur, a.walk cur comps = b.walk cur comps := fun comps cur => walk_dirs b a hd comps cur
    split
    · rfl
    · have hex : ∀ c ∈ nameCands name, a.existsAt parentComps c = b.existsAt parentComps c := by
        intro c hc
        unfold FS.existsAt
        rw [← hw]
        cases hwk : a.walk [] (parentComps ++ [c]) with
        | none => rfl
        | some p =>
          simp only
          apply hp p
          simp only [List.mem_filterMap]
          exact ⟨c, hc, hwk⟩
      rw [getTxtppFile_congr _ _ name hex]
      cases PathName.getTxtppFile _ name with
      | none => rfl
      | some cand => simp only; rw [hw]

theorem depProbes_dirs (cfg : Cfg) (a b : FS) (wd : Path) (arg : Str) (h : a.dirs = b.dirs) :
    depProbes cfg a wd arg = depProbes cfg b wd arg := by
  unfold depProbes
  cases depSplit cfg wd arg with
  | none => rfl
  | some pn =>
    obtain ⟨pc, n⟩ := pn
    simp only
    congr 1
    funext cand
    exact walk_dirs b a h _ _

theorem Agree.depOf {S0 : List Path} {a b : FS} (hag : Agree S0 a b) (cfg : Cfg) (wd : Path) (fs0 : FS) (arg : Str)
    (hd : a.dirs = fs0.dirs) (hp : ∀ p ∈ depProbes cfg fs0 wd arg, p ∉ S0) : a.depOf cfg wd arg = b.depOf cfg wd arg :=
  depOf_rel cfg wd a b arg hag.1 (fun p hpm => hag.isFile p (hp p (by rw [← depProbes_dirs cfg a fs0 wd arg hd]; exact hpm)))

theorem staleOpen_sub (mode : Mode) (S : List Path) (o : Path) : ∀ q, q ∈ staleOpen mode S o → q ∈ S := by
  intro q hq
  unfold staleOpen at hq
  cases mode <;> simp only at hq
  · exact (List.mem_filter.1 hq).1
  all_goals exact hq

/-- build and only-if-needed build (`Mode.inMemory`, the command line's `--needed`) open the output alike: a build
    truncates it on both sides -/
theorem sinkStart_rel (mode : Mode) (hm : mode = .build ∨ mode = .inMemory) (S : List Path) (a b : FS) (o : Path)
    (hag : Agree S a b) :
    (sinkStart mode a o = none ∧ sinkStart mode b o = none) ∨
    ∃ a1 b1, sinkStart mode a o = some a1 ∧ sinkStart mode b o = some b1 ∧ a1.dirs = a.dirs ∧ Agree (staleOpen mode S o) a1 b1 := by
  rcases hm with rfl | rfl
  · simp only [sinkStart, ← hag.isDir o]
    cases a.isDir o
    · exact Or.inr ⟨_, _, rfl, rfl, rfl, hag.write o _⟩
    · exact Or.inl ⟨rfl, rfl⟩
  · exact Or.inr ⟨a, b, rfl, rfl, rfl, hag⟩

/-- what closing the output does, build or only-if-needed build: it fails on a directory (only-if-needed
    only: a build does not get this far) and leaves the tree alone, or leaves `new` at `o` and nothing else changed -/
theorem sinkEnd_build_cases (m : Mode) (hm : m = .build ∨ m = .inMemory) (x : FS) (o : Path) (new : ByteArray) :
    ((sinkEnd m x o new).1 = .err ∧ (sinkEnd m x o new).2 = x ∧ m = .inMemory ∧ x.isDir o = true) ∨
    ((sinkEnd m x o new).1 = .ok ∧ (sinkEnd m x o new).2.dirs = x.dirs ∧ (sinkEnd m x o new).2.file? o = some new ∧
      (∀ q, q ≠ o → (sinkEnd m x o new).2.file? q = x.file? q) ∧ (m = .inMemory → x.isDir o = false)) := by
  rcases hm with rfl | rfl
  · exact Or.inr ⟨rfl, rfl, file?_write_same .., fun q hq => file?_write_other x o q new hq, fun h => by cases h⟩
  · unfold sinkEnd
    dsimp only
    cases hx : x.isDir o
    · right
      rw [if_neg (by simp)]
      by_cases he : x.file? o = some new
      · rw [if_pos he]; exact ⟨rfl, rfl, he, fun _ _ => rfl, fun _ => rfl⟩
      · rw [if_neg he]; exact ⟨rfl, rfl, file?_write_same .., fun q hq => file?_write_other x o q new hq, fun _ => rfl⟩
    · left; rw [if_pos rfl]; exact ⟨rfl, rfl, rfl, rfl⟩

/-- closing the output with the same bytes, build or only-if-needed build on either side (two different
    kinds only where the output path is no directory): the same outcome, and the output path is fresh
    unless the pass failed here -/
theorem sinkEnd_rel (m1 m2 : Mode) (h1 : m1 = .build ∨ m1 = .inMemory) (h2 : m2 = .build ∨ m2 = .inMemory)
    (a b : FS) (o : Path) (new : ByteArray) (hdir : m1 = m2 ∨ a.isDir o = false) (hd : a.dirs = b.dirs) :
    (sinkEnd m1 a o new).1 = (sinkEnd m2 b o new).1 ∧
    ∀ T, Agree T a b → Agree T (sinkEnd m1 a o new).2 (sinkEnd m2 b o new).2 ∧
      ((sinkEnd m1 a o new).1 = .ok → Agree (T.filter (· != o)) (sinkEnd m1 a o new).2 (sinkEnd m2 b o new).2) := by
  have hdb : a.isDir o = b.isDir o := isDir_dirs hd o
  rcases sinkEnd_build_cases m1 h1 a o new with ⟨a1, a2, a3, a4⟩ | ⟨a1, a2, a3, a4, a5⟩ <;>
    rcases sinkEnd_build_cases m2 h2 b o new with ⟨b1, b2, b3, b4⟩ | ⟨b1, b2, b3, b4, b5⟩
  · exact ⟨by rw [a1, b1], fun T hT => ⟨by rw [a2, b2]; exact hT, fun hok => by rw [a1] at hok; cases hok⟩⟩
  · exfalso
    rcases hdir with h | h
    · have := b5 (h ▸ a3); rw [← hdb, a4] at this; cases this
    · rw [h] at a4; cases a4
  · exfalso
    rcases hdir with h | h
    · have := a5 (h ▸ b3); rw [hdb, b4] at this; cases this
    · rw [← hdb, h] at b4; cases b4
  · exact ⟨by rw [a1, b1], fun T hT =>
      have hf := hT.fresh ⟨a2, a4⟩ ⟨b2, b4⟩ (a3.trans b3.symm)
      ⟨hf.of_filter, fun _ => hf⟩⟩

end Txt
