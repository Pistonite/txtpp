import Txtpp.Model.Shell
/-! `Shell::new`: the tokens of the setting are non-empty and free of white space; a blank setting has none (`sh -c`). -/
namespace Txt

theorem splitWhitespace_go_spec (s acc : Str) (hacc : ∀ c ∈ acc, isWs c = false) :
    ∀ t ∈ splitWhitespace.go s acc, t ≠ [] ∧ ∀ c ∈ t, isWs c = false := by
  -- the accumulator, when it is flushed, is a token
  have tok : ∀ acc : Str, ¬ acc.isEmpty = true → (∀ c ∈ acc, isWs c = false) →
      acc.reverse ≠ [] ∧ ∀ c ∈ acc.reverse, isWs c = false := fun acc he hacc =>
    ⟨fun e => he (by rw [List.reverse_eq_nil_iff.1 e]; rfl), fun c hc => hacc c (List.mem_reverse.1 hc)⟩
  fun_induction splitWhitespace.go s acc with
  | case1 acc he => exact nofun
  | case2 acc he => exact fun t ht => List.mem_singleton.1 ht ▸ tok acc he hacc
  | case3 c cs acc hw he ih => exact ih nofun
  | case4 c cs acc hw he ih =>
    exact fun t ht => (List.mem_cons.1 ht).elim (fun e => e ▸ tok acc he hacc) (ih nofun t)
  | case5 c cs acc hw ih =>
    exact ih fun x hx => (List.mem_cons.1 hx).elim (fun e => e ▸ Bool.eq_false_iff.2 hw) (hacc x)

theorem splitWhitespace_tokens (s : Str) : ∀ t ∈ splitWhitespace s, t ≠ [] ∧ ∀ c ∈ t, isWs c = false :=
  splitWhitespace_go_spec s [] nofun

theorem splitWhitespace_blank (s : Str) (h : ∀ c ∈ s, isWs c = true) : splitWhitespace s = [] := by
  show splitWhitespace.go s [] = []
  induction s with
  | nil => rfl
  | cons c cs ih =>
    rw [splitWhitespace.go, if_pos (h c List.mem_cons_self), if_pos List.isEmpty_nil, ih fun x hx => h x (List.mem_cons_of_mem _ hx)]

end Txt
