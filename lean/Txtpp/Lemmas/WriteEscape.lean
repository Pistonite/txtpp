import Txtpp.Lemmas.LineEnding
import Txtpp.Lemmas.TextIff
import Txtpp.Lemmas.AddLineIff
import Txtpp.Lemmas.PassInv
/-! C16: a source without directive lines passes through unchanged; `str::lines` undoes `join("\n")` on
    terminator-free lines, so the output of a `write` directive is exactly its argument lines joined by the line
    ending, and any text can be escaped as one `write` directive. -/
namespace Txt
open Refine (feedAll feed)

theorem replaceLE_clean_cons (le a t : Str) (ha : Clean a) :
    replaceLE le (a ++ '\n' :: t) = a ++ le ++ replaceLE le t := by
  unfold replaceLE
  rw [rustLines_clean_cons a t ha, endsNl_append_nl, joinWith_cons]
  by_cases ht : t = []
  · subst ht; simp [rustLines, endsNl, joinWith]
  · have hR : rustLines t ≠ [] := fun h => ht ((rustLines_eq_nil t).1 h)
    simp [ht, hR, List.append_assoc]

theorem replaceLE_clean (le a : Str) (ha : Clean a) : replaceLE le a = a := by
  rw [replaceLE, rustLines_clean_single a ha, endsNl_of_not_mem a ha.2]
  by_cases h : a = [] <;> simp [h, joinWith]

/-- C16: the formatted output of `write` (argument lines joined by `\n`, re-split by `str::lines`,
    re-joined by the line ending) is the argument lines joined by the line ending -/
theorem replaceLE_join_nl (le : Str) (L : List Str) (hL : ∀ l ∈ L, Clean l) :
    replaceLE le (joinWith ['\n'] L) = joinWith le L := by
  induction L with
  | nil => simp [replaceLE, joinWith, rustLines, endsNl]
  | cons a rest ih =>
    obtain ⟨ha, hrest⟩ := List.forall_mem_cons.1 hL
    cases rest with
    | nil => exact replaceLE_clean le a ha
    | cons b rest' =>
      rw [joinWith_cons_cons, joinWith_cons_cons, List.append_assoc, List.singleton_append,
        replaceLE_clean_cons le a _ ha, ih hrest]

theorem inject_empty' (le l : Str) : TagState.empty.injectLE le l = (l, TagState.empty) := by
  simp [TagState.injectLE, TagState.inject, TagState.empty, matchesOf, sortM, injLoop]

/-- a source without directive lines is reproduced line for line, in either pass -/
theorem plain_ppPass {W : Type} (Wd : World W) (le : Str) (first trailing : Bool) (w : W)
    (lines : List Str) (h : ∀ l ∈ lines, detectFrom l = none) :
    ppPass Wd .build le first trailing w lines true =
      .ok (joinWith le lines ++ (if !lines.isEmpty && trailing then le else [])) w := by
  have hd : ∀ l ∈ lines, (txtppSem Wd .build le).detect l = none := fun l hl => by
    show (match detectFrom l with | some d => _ | none => none) = none
    rw [h l hl]
  have ht : ∀ l ∈ lines, (txtppSem Wd .build le).text (startState first w) l = (startState first w, some l) := fun l _ => by
    cases first <;> (dsimp only [txtppSem]; rw [inject_empty']; rfl)
  rw [ppPass_eq, Refine.passthrough (txtppSem Wd .build le) trailing _ lines hd ht]
  cases first <;> rfl

def dash : Str := ['-']
def writeKw : Str := ['w', 'r', 'i', 't', 'e']

/-- the escaped form of a text `L0 :: Ls`: `-TXTPP#write L0`, `-L1`, … -/
def escapeLines (L0 : Str) (Ls : List Str) : List Str :=
  (dash ++ hash ++ writeKw ++ ' ' :: L0) :: Ls.map (dash ++ ·)

def writeDir (args : List Str) : Directive := ⟨[], dash, .write, args⟩

theorem detect_escape_head (L0 : Str) (h0 : trim L0 = L0) :
    detectFrom (dash ++ hash ++ writeKw ++ ' ' :: L0) = some (writeDir [L0]) := by
  refine (detectFrom_iff _ _).2 ⟨dash ++ hash ++ writeKw ++ ' ' :: L0, writeKw ++ ' ' :: L0, writeKw, rfl,
    fun _ h => (nomatch h), fun c hc => ?_, List.append_assoc _ _ _, fun j hj hp => ?_,
    .inr ⟨L0, rfl, by decide, by rw [h0]; rfl⟩, (by decide +kernel : DType.ofName writeKw = some .write)⟩
  · cases hc; decide
  · cases Nat.lt_one_iff.1 hj
    obtain ⟨t, ht⟩ := hp
    cases ht

theorem addLine_escape (args : List Str) (l : Str) (hl : trimEnd l = l) :
    addLine (writeDir args) (dash ++ l) = some (writeDir (args ++ [l])) := by
  have hm : (writeDir args).ty.multi = true := rfl
  have := addLine_complete (writeDir args) (dash ++ l) l hm
    ⟨dash ++ l, by simp [writeDir], Or.inr (Or.inl ⟨l, by simp [writeDir], hl.symm⟩)⟩
  simpa [Directive.push, writeDir] using this

theorem feedAll_escape_conts {W : Type} (Wd : World W) (le : Str) (st : PpState W) (p : Bool) (out : Str)
    (args : List Str) (Ls : List Str) (hLs : ∀ l ∈ Ls, trimEnd l = l) :
    feedAll (txtppSem Wd .build le) ⟨some (writeDir args), st, p, out⟩ (Ls.map (dash ++ ·)) =
      some ⟨some (writeDir (args ++ Ls)), st, p, out⟩ := by
  induction Ls generalizing args with
  | nil => simp [feedAll]
  | cons l ls ih =>
    have h1 := addLine_escape args l (hLs l (by simp))
    simp only [List.map_cons, feedAll, feed, txtppSem, h1]
    have := ih (args ++ [l]) (fun x hx => hLs x (by simp [hx]))
    simp only [txtppSem, List.append_assoc, List.singleton_append] at this
    exact this

/-- the write escape in either pass: a `write` block names no dependency, so a first pass executes it too -/
theorem write_escape_pass {W : Type} (Wd : World W) (le : Str) (first trailing : Bool) (w : W) (L0 : Str) (Ls : List Str)
    (h0 : trim L0 = L0) (hLs : ∀ l ∈ Ls, trimEnd l = l) (hclean : ∀ l ∈ L0 :: Ls, Clean l) :
    ppPass Wd .build le first trailing w (escapeLines L0 Ls) true =
      .ok (joinWith le (L0 :: Ls) ++ (if trailing then le else [])) w := by
  have hx : (startState first w).pm.isExecute = true := by cases first <;> rfl
  have hex : execDirective Wd .build le (startState first w) (writeDir (L0 :: Ls)) =
      some (startState first w, some (joinWith le (L0 :: Ls))) := by
    have hd : (writeDir (L0 :: Ls)).ty ≠ .include ∧ (writeDir (L0 :: Ls)).ty ≠ .after := ⟨nofun, nofun⟩
    rw [execDirective_noDep Wd (mode := .build) (by decide) le hx hd]
    show some (_, some (formatOutput le [] (joinWith ['\n'] (L0 :: Ls)))) = _
    rw [formatOutput_nil_ws, replaceLE_join_nl le (L0 :: Ls) hclean]
  have hmach := Refine.machine_single (txtppSem Wd .build le) trailing (startState first w) _ _ (Ls.map (dash ++ ·))
    (writeDir [L0]) _ _ (by show (match detectFrom _ with | some d => _ | none => _) = _; rw [detect_escape_head L0 h0]; rfl)
    rfl (feedAll_escape_conts Wd le _ false [] [L0] Ls hLs) hex
  rw [ppPass_eq, escapeLines, hmach]
  cases first <;> rfl

/-- C16 (write escape): for every non-empty text `L0 :: Ls` of terminator-free lines, the first
    without leading or trailing blanks, the others without trailing blanks (a pass starts with the empty tag store), the
    source `-TXTPP#write L0 / -L1 / …` produces exactly the lines joined by the line ending (plus the
    final one iff the trailing option is on) — whatever directive or tag look-alikes the text contains. -/
theorem write_escape_roundtrip {W : Type} (Wd : World W) (le : Str) (trailing : Bool) (w : W) (L0 : Str) (Ls : List Str)
    (h0 : trim L0 = L0) (hLs : ∀ l ∈ Ls, trimEnd l = l) (hclean : ∀ l ∈ L0 :: Ls, Clean l) :
    ppPass Wd .build le false trailing w (escapeLines L0 Ls) true =
      .ok (joinWith le (L0 :: Ls) ++ (if trailing then le else [])) w :=
  write_escape_pass Wd le false trailing w L0 Ls h0 hLs hclean

end Txt
