import Txtpp.Model.PathName
import Txtpp.Lemmas.Span
/-! The naming algebra of C11: what `Path::extension` / `file_stem` see in a name (`extension_cases`), the three
    source-name shapes and their output names, and `get_txtpp_file`: its candidates (`getTxtppFile_some`), and that
    the source it finds has the given name as output (`get_remove`). -/
namespace PathName

theorem splitLastDot_iff {n a e : Str} : splitLastDot n = some (a, e) ↔ n = a ++ '.' :: e ∧ '.' ∉ e := by
  have key : (n = a ++ '.' :: e ∧ '.' ∉ e) ↔
      (n.reverse.takeWhile (· != '.') = e.reverse ∧ n.reverse.dropWhile (· != '.') = '.' :: a.reverse) := by
    rw [List.span_ne_iff, List.mem_reverse, ← List.reverse_inj (xs := n.reverse)]; simp
  rw [key]; clear key
  simp only [splitLastDot]
  cases hd : n.reverse.dropWhile (· != '.') with
  | nil => simp [(List.dropWhile_ne_eq_nil '.' n.reverse).1 hd]
  | cons c t =>
    have hm : '.' ∈ n.reverse := Classical.not_not.1 fun h => by
      rw [(List.dropWhile_ne_eq_nil '.' n.reverse).2 h] at hd; cases hd
    simp only [hm, if_true, List.tail_cons, Option.some.injEq, Prod.mk.injEq, List.dropWhile_ne_cons hd,
      List.cons.injEq, true_and]
    constructor
    · rintro ⟨rfl, rfl⟩; simp
    · rintro ⟨h1, rfl⟩; simp [h1]

theorem append_ne_dotdot (a e : Str) (ha : a ≠ []) (hne : e ≠ []) : a ++ '.' :: e ≠ dotdot := by
  intro h
  have := congrArg List.length h
  cases a with
  | nil => exact ha rfl
  | cons x xs => cases e with
    | nil => exact hne rfl
    | cons y ys => simp [dotdot] at this; omega

theorem extension_append (a e : Str) (ha : a ≠ []) (he : '.' ∉ e) (hne : e ≠ []) : extension (a ++ '.' :: e) = some e := by
  simp [extension, append_ne_dotdot a e ha hne, splitLastDot_iff.2 ⟨rfl, he⟩, ha]

theorem fileStem_append (a e : Str) (ha : a ≠ []) (he : '.' ∉ e) (hne : e ≠ []) : fileStem (a ++ '.' :: e) = a := by
  simp [fileStem, append_ne_dotdot a e ha hne, splitLastDot_iff.2 ⟨rfl, he⟩, ha]

/-- what `Path::extension` and `Path::file_stem` see in a file name: either no extension, and the stem is the name,
    or the name is `stem.ext` with a non-empty stem and a dot-free `ext` -/
theorem extension_cases (n : Str) :
    (extension n = none ∧ fileStem n = n) ∨
    (∃ a e, a ≠ [] ∧ '.' ∉ e ∧ n = a ++ '.' :: e ∧ extension n = some e ∧ fileStem n = a) := by
  unfold extension fileStem
  by_cases hd : n = dotdot
  · rw [if_pos hd, if_pos hd]; exact .inl ⟨rfl, rfl⟩
  · rw [if_neg hd, if_neg hd]
    cases hs : splitLastDot n with
    | none => exact .inl ⟨rfl, rfl⟩
    | some r =>
      obtain ⟨a, e⟩ := r
      obtain ⟨hn, he⟩ := splitLastDot_iff.1 hs
      by_cases ha : a = []
      · dsimp only; rw [if_pos ha, if_pos ha]; exact .inl ⟨rfl, rfl⟩
      · dsimp only; rw [if_neg ha, if_neg ha]; exact .inr ⟨a, e, ha, he, hn, rfl, rfl⟩

theorem setExtension_nil_append (a e : Str) (ha : a ≠ []) (he : '.' ∉ e) (hne : e ≠ []) :
    setExtension (a ++ '.' :: e) [] = a := by
  simp [setExtension, fileStem_append a e ha he hne]

theorem txtpp_nodot : '.' ∉ txtpp := by decide
theorem txtpp_ne_nil : txtpp ≠ [] := by decide

theorem isTxtppFile_of_extension {n : Str} (h : extension n = some txtpp) : isTxtppFile n = true := by
  rw [isTxtppFile, h]; rfl

/-- `is_txtpp_file` and `remove_txtpp` on a name `a.e` with an extension: the three source-name shapes
    are instances -/
theorem isTxtppFile_append (a e : Str) (ha : a ≠ []) (he : '.' ∉ e) (hne : e ≠ []) :
    isTxtppFile (a ++ '.' :: e) = (e == txtpp || extension a == some txtpp) := by
  rw [isTxtppFile, extension_append a e ha he hne, setExtension_nil_append a e ha he hne]
  cases extension a <;> rfl

theorem removeTxtpp_append (a e : Str) (ha : a ≠ []) (he : '.' ∉ e) (hne : e ≠ [])
    (ht : isTxtppFile (a ++ '.' :: e) = true) :
    removeTxtpp (a ++ '.' :: e) = some (if extension a == some txtpp then setExtension a [] ++ '.' :: e else a) := by
  rw [removeTxtpp, ht, setExtension_nil_append a e ha he hne, extension_append a e ha he hne, if_neg (by decide)]
  dsimp only
  cases extension a == some txtpp <;> rfl

/-- shape `foo.txtpp` (and `foo.ext.txtpp`) is a txtpp file … -/
theorem isTxtpp_suffix (foo : Str) (h : foo ≠ []) : isTxtppFile (foo ++ '.' :: txtpp) = true :=
  isTxtppFile_of_extension (extension_append foo txtpp h txtpp_nodot txtpp_ne_nil)

/-- … whose output is `foo` -/
theorem out_txtpp (foo : Str) (h1 : foo ≠ []) (h2 : extension foo ≠ some txtpp) :
    removeTxtpp (foo ++ '.' :: txtpp) = some foo := by
  rw [removeTxtpp_append foo txtpp h1 txtpp_nodot txtpp_ne_nil (isTxtpp_suffix foo h1), if_neg (by simpa using h2)]

/-- shape `foo.ext.txtpp` → `foo.ext`, for every non-empty `foo` (dots allowed) and every
    non-empty dot-free `ext` other than `txtpp` -/
theorem out_ext_txtpp (foo ext : Str) (h1 : foo ≠ []) (h2 : '.' ∉ ext) (h3 : ext ≠ []) (h4 : ext ≠ txtpp) :
    removeTxtpp ((foo ++ '.' :: ext) ++ '.' :: txtpp) = some (foo ++ '.' :: ext) := by
  apply out_txtpp
  · simp
  · rw [extension_append foo ext h1 h2 h3]; simpa using h4

/-- shape `foo.txtpp.ext` → `foo.ext` (`remove_txtpp` as repaired for F6: also when `foo` contains dots) -/
theorem out_txtpp_ext (foo ext : Str) (h1 : foo ≠ []) (h2 : '.' ∉ ext) (h3 : ext ≠ []) (h4 : ext ≠ txtpp) :
    isTxtppFile ((foo ++ '.' :: txtpp) ++ '.' :: ext) = true ∧
    removeTxtpp ((foo ++ '.' :: txtpp) ++ '.' :: ext) = some (foo ++ '.' :: ext) := by
  have hne : foo ++ '.' :: txtpp ≠ [] := by simp
  have e2 := extension_append foo txtpp h1 txtpp_nodot txtpp_ne_nil
  have ht : isTxtppFile ((foo ++ '.' :: txtpp) ++ '.' :: ext) = true := by
    rw [isTxtppFile_append _ ext hne h2 h3, e2, beq_false_of_ne h4]; rfl
  rw [removeTxtpp_append _ ext hne h2 h3 ht, e2, if_pos (beq_self_eq_true _),
    setExtension_nil_append foo txtpp h1 txtpp_nodot txtpp_ne_nil]
  exact ⟨ht, rfl⟩

/-- C11 -/
theorem lookalikes_not_txtpp :
    isTxtppFile txtpp = false ∧ isTxtppFile ('.' :: txtpp) = false ∧
    isTxtppFile ['a', '.', 't', 'x', 't', 'p', 'p', '.', 'b', '.', 'c'] = false ∧
    isTxtppFile ['a', '.', 't', 'x', 't'] = false ∧ isTxtppFile ['a', '.', 't', 'x', 't', 'p', 'p', '~'] = false := by
  decide +kernel

/-- no trailing dot: if the name has a last dot, something follows it -/
def NoTrailingDot (n : Str) : Prop := ∀ a e, splitLastDot n = some (a, e) → e ≠ []

/-- the candidates of `get_txtpp_file`: `n.txtpp` and, for `n = a.e`, also `a.txtpp.e`; each is returned only if it exists -/
theorem getTxtppFile_some {ex : Str → Bool} {n s : Str} (hn : n ≠ []) (h : getTxtppFile ex n = some s) :
    isTxtppFile n = false ∧ ex s = true ∧
      (s = n ++ '.' :: txtpp ∨ ∃ a e, a ≠ [] ∧ '.' ∉ e ∧ n = a ++ '.' :: e ∧ s = (a ++ '.' :: txtpp) ++ '.' :: e) := by
  have setExt : ∀ x, x ≠ [] → setExtension n x = fileStem n ++ '.' :: x := fun x hx => by
    rw [setExtension, if_neg hx]
  unfold getTxtppFile at h
  obtain ⟨hnt, h⟩ := Option.ite_none_left_eq_some.1 h
  refine ⟨Bool.eq_false_iff.2 hnt, ?_⟩
  rcases extension_cases n with ⟨hext, hstem⟩ | ⟨a, e, ha, hde, hna, hext, hstem⟩
  · rw [hext] at h; dsimp only at h
    rw [setExt _ txtpp_ne_nil, hstem] at h
    obtain ⟨hex, h⟩ := Option.ite_none_right_eq_some.1 h
    cases h; exact ⟨hex, .inl rfl⟩
  · rw [hext] at h; dsimp only at h
    have hp1 : setExtension n (e ++ '.' :: txtpp) = n ++ '.' :: txtpp := by
      rw [setExt _ (List.append_ne_nil_of_right_ne_nil _ (List.cons_ne_nil _ _)), hstem, hna, List.append_assoc]; rfl
    rw [hp1, setExtension_nil_append n txtpp hn txtpp_nodot txtpp_ne_nil,
      setExt _ (List.append_ne_nil_of_right_ne_nil _ (List.cons_ne_nil _ _)), hstem] at h
    by_cases hex : ex (n ++ '.' :: txtpp) = true
    · rw [if_pos hex] at h; cases h; exact ⟨hex, .inl rfl⟩
    · rw [if_neg hex] at h
      obtain ⟨hex2, h⟩ := Option.ite_none_right_eq_some.1 h
      cases h; exact ⟨hex2, .inr ⟨a, e, ha, hde, hna, (List.append_assoc a ('.' :: txtpp) ('.' :: e)).symm⟩⟩

/-- C11: naming a file by its output name finds a source whose output is exactly that name
    (both candidate shapes), for every output name without a trailing dot -/
theorem get_remove (ex : Str → Bool) (n s : Str) (hn : n ≠ []) (hwd : NoTrailingDot n)
    (h : getTxtppFile ex n = some s) : removeTxtpp s = some n ∧ ex s = true := by
  obtain ⟨hnt, hex, rfl | ⟨a, e, ha, hde, rfl, rfl⟩⟩ := getTxtppFile_some hn h
  · exact ⟨out_txtpp n hn fun he => Bool.false_ne_true (hnt ▸ isTxtppFile_of_extension he), hex⟩
  · have hee : e ≠ [] := hwd a e (splitLastDot_iff.2 ⟨rfl, hde⟩)
    have het : e ≠ txtpp := fun he => Bool.false_ne_true (hnt ▸ he ▸ isTxtpp_suffix a ha)
    exact ⟨(out_txtpp_ext a e ha hde hee het).2, hex⟩

end PathName
