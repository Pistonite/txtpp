import Txtpp.Model.Tag
import Txtpp.Lemmas.TextIff
/-! The tag store: when `create` and `try_store` succeed and the invariant they keep; then C14's determinism,
    `inject_tags` does not depend on the iteration order of the map: the matches are sorted by position, and
    under `PrefixFree` no two of them share a position, so the sorted list is the same for every order. -/
namespace Txt

theorem related_iff {a b : Str} : related a b = true ↔ a <+: b ∨ b <+: a := by
  simp only [related, Bool.or_eq_true, List.isPrefixOf_iff_prefix]

theorem create_err_iff (t : TagState) (tag : Str) :
    t.create tag = none ↔ (t.listening.isSome ∨ ∃ kv ∈ t.stored, kv.1 <+: tag ∨ tag <+: kv.1) := by
  have hany : t.stored.any (fun kv => related kv.1 tag) = true ↔ ∃ kv ∈ t.stored, kv.1 <+: tag ∨ tag <+: kv.1 := by
    simp only [List.any_eq_true, related_iff]
  rw [← hany, TagState.create]
  cases t.listening.isSome <;> cases t.stored.any (fun kv => related kv.1 tag) <;> simp

theorem related_symm (a b : Str) : related a b = related b a := by simp [related, Bool.or_comm]

theorem create_some_iff {t t' : TagState} {tag : Str} :
    t.create tag = some t' ↔
      t.listening = none ∧ (∀ kv ∈ t.stored, related kv.1 tag = false) ∧ t' = { t with listening := some tag } := by
  have hall : t.stored.any (fun kv => related kv.1 tag) = false ↔ ∀ kv ∈ t.stored, related kv.1 tag = false := by
    simp only [List.any_eq_false, Bool.not_eq_true]
  rw [← hall, TagState.create]
  cases t.listening <;> cases t.stored.any (fun kv => related kv.1 tag) <;> simp [eq_comm]

theorem tryStore_some_iff {t t' : TagState} {c : Str} :
    t.tryStore c = some t' ↔
      ∃ tag, t.listening = some tag ∧ t' = ⟨none, (tag, c) :: t.stored.filter (fun kv => kv.1 != tag)⟩ := by
  unfold TagState.tryStore
  cases t.listening <;> simp [eq_comm]

theorem create_stored {t t' : TagState} {n : Str} (h : t.create n = some t') : t'.stored = t.stored :=
  (create_some_iff.1 h).2.2 ▸ rfl

theorem create_inv (t t' : TagState) (tag : Str) (hI : TagInv t) (h : t.create tag = some t') : TagInv t' := by
  obtain ⟨_, h2, rfl⟩ := create_some_iff.1 h
  exact ⟨hI.1, fun tg htg kv hkv => Option.some.inj htg ▸ h2 kv hkv⟩

theorem tryStore_inv (t t' : TagState) (c : Str) (hI : TagInv t) (h : t.tryStore c = some t') : TagInv t' := by
  obtain ⟨tag, htag, rfl⟩ := tryStore_some_iff.1 h
  refine ⟨List.pairwise_cons.2 ⟨fun kv hkv => ?_, hI.1.sublist List.filter_sublist⟩, fun _ h => nomatch h⟩
  rw [related_symm]; exact hI.2 tag htag kv (List.mem_filter.1 hkv).1

theorem findIdx_some {k line : Str} {i : Nat} (h : findIdx k line = some i) :
    i ≤ line.length ∧ k <+: line.drop i ∧ ∀ j, j < i → ¬ k <+: line.drop j := by
  obtain ⟨⟨a, b⟩, hf, rfl⟩ := Option.map_eq_some_iff.1 h
  obtain ⟨rfl, h2, h3⟩ := findSub_iff.1 hf
  exact ⟨by simp, by simpa using h2, h3⟩

theorem mem_matchesOf {stored : List (Str × Str)} {line : Str} {m : Match} :
    m ∈ matchesOf stored line ↔ (m.2.1, m.2.2) ∈ stored ∧ findIdx m.2.1 line = some m.1 := by
  simp only [matchesOf, List.mem_filterMap, Option.map_eq_some_iff]
  constructor
  · rintro ⟨kv, hkv, i, hi, rfl⟩; exact ⟨hkv, hi⟩
  · rintro ⟨hkv, hi⟩; exact ⟨(m.2.1, m.2.2), hkv, m.1, hi, rfl⟩

theorem prefix_related {a b l : Str} (ha : a <+: l) (hb : b <+: l) : related a b = true :=
  related_iff.2 ((Nat.le_total a.length b.length).imp (List.prefix_of_prefix_length_le ha hb)
    (List.prefix_of_prefix_length_le hb ha))

/-- `Pairwise` relates an earlier member to a later one; `related` is symmetric, so the order does not matter -/
theorem pairwise_eq_of_related {l : List (Str × Str)} (h : PrefixFree l) {a b : Str × Str}
    (ha : a ∈ l) (hb : b ∈ l) (hr : related a.1 b.1 = true) : a = b :=
  List.Pairwise.forall_of_forall_of_flip (R := fun a b => related a.1 b.1 = true → a = b) (fun _ _ _ => rfl)
    (h.imp fun hf ht => absurd ht (by simp [hf])) (h.imp fun hf ht => absurd (related_symm .. ▸ ht) (by simp [hf])) ha hb hr

theorem match_same_index {stored : List (Str × Str)} (hpf : PrefixFree stored) {line : Str}
    {a b : Match} (ha : a ∈ matchesOf stored line) (hb : b ∈ matchesOf stored line) (hi : a.1 = b.1) : a = b := by
  obtain ⟨ia, ka, va⟩ := a
  obtain ⟨ib, kb, vb⟩ := b
  obtain ⟨hka, hia⟩ := mem_matchesOf.1 ha
  obtain ⟨hkb, hib⟩ := mem_matchesOf.1 hb
  cases hi
  cases pairwise_eq_of_related hpf hka hkb (prefix_related (findIdx_some hia).2.1 (findIdx_some hib).2.1)
  rfl

theorem insertM_perm (a : Match) (l : List Match) : (insertM a l).Perm (a :: l) := by
  fun_induction insertM a l with
  | case1 => exact .refl _
  | case2 b bs hab => exact .refl _
  | case3 b bs hab ih => exact (ih.cons b).trans (.swap a b bs)

theorem sortM_perm (l : List Match) : (sortM l).Perm l := by
  induction l with
  | nil => exact List.Perm.refl _
  | cons a l ih => exact (insertM_perm a _).trans (List.Perm.cons a ih)

def SortedM (l : List Match) : Prop := l.Pairwise (fun a b => a.1 ≤ b.1)

theorem insertM_sorted (a : Match) (l : List Match) (h : SortedM l) : SortedM (insertM a l) := by
  fun_induction insertM a l with
  | case1 => exact List.pairwise_singleton _ _
  | case2 b bs hab =>
    refine List.pairwise_cons.2 ⟨fun c hc => ?_, h⟩
    rcases List.mem_cons.1 hc with rfl | hc
    · exact hab
    · exact Nat.le_trans hab ((List.pairwise_cons.1 h).1 c hc)
  | case3 b bs hab ih =>
    obtain ⟨h1, h2⟩ := List.pairwise_cons.1 h
    refine List.pairwise_cons.2 ⟨fun c hc => ?_, ih h2⟩
    rcases List.mem_cons.1 ((insertM_perm a bs).subset hc) with rfl | hc
    · exact Nat.le_of_not_le hab
    · exact h1 c hc

theorem sortM_sorted (l : List Match) : SortedM (sortM l) := by
  induction l with
  | nil => simp [sortM, SortedM]
  | cons a l ih => exact insertM_sorted a _ ih

theorem sortM_perm_eq {m1 m2 : List Match} (hp : m1.Perm m2)
    (hinj : ∀ a b, a ∈ m1 → b ∈ m1 → a.1 = b.1 → a = b) : sortM m1 = sortM m2 :=
  ((sortM_perm m1).trans (hp.trans (sortM_perm m2).symm)).eq_of_pairwise
    (fun a b ha hb hab hba =>
      hinj a b ((sortM_perm m1).subset ha) (hp.symm.subset ((sortM_perm m2).subset hb)) (Nat.le_antisymm hab hba))
    (sortM_sorted m1) (sortM_sorted m2)

/-- C14 determinism: the result of `inject_tags` does not depend on the iteration order of the map -/
theorem inject_perm (l : Option Str) (s1 s2 : List (Str × Str)) (norm : Str → Str) (line : Str)
    (hp : s1.Perm s2) (hpf : PrefixFree s1) :
    ((TagState.mk l s1).inject norm line).1 = ((TagState.mk l s2).inject norm line).1 ∧
    ((TagState.mk l s1).inject norm line).2.stored.Perm ((TagState.mk l s2).inject norm line).2.stored := by
  have hm : (matchesOf s1 line).Perm (matchesOf s2 line) := hp.filterMap _
  have hs : sortM (matchesOf s1 line) = sortM (matchesOf s2 line) :=
    sortM_perm_eq hm fun _ _ ha hb => match_same_index hpf ha hb
  simp only [TagState.inject, hs]
  exact ⟨trivial, hp.filter _⟩

#print axioms inject_perm
end Txt
