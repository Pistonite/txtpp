import Txtpp.Model.Panic
import Txtpp.Lemmas.AddLineIff
/-! `byteSplit` at the byte length of a prefix: the one fact behind the slice sites of C18. -/
namespace Txt

theorem utf8Len_append (a b : Str) : utf8Len (a ++ b) = utf8Len a + utf8Len b := by
  induction a with
  | nil => simp [utf8Len]
  | cons c cs ih => simp only [List.cons_append, utf8Len_cons, ih]; omega

theorem byteSplit_cons (c : Char) (cs : Str) (n : Nat) :
    byteSplit (c :: cs) (c.utf8Size + n) = (byteSplit cs n).map (fun r => (c :: r.1, r.2)) := by
  obtain ⟨m, hm⟩ := Nat.exists_eq_succ_of_ne_zero (Nat.ne_of_gt (Char.utf8Size_pos c))
  rw [hm, Nat.succ_add, byteSplit, hm, if_pos (Nat.succ_le_succ (Nat.le_add_right m n)), Nat.succ_sub_succ,
    Nat.add_sub_cancel_left]

/-- slicing at the byte length of a known prefix never panics and yields that prefix; every slice site of the
    code is an instance, by the split `a ++ b = l` that the surrounding code has established -/
theorem byteSplit_of_append {a b l : Str} (h : a ++ b = l) : byteSplit l (utf8Len a) = some (a, b) := by
  subst h
  induction a with
  | nil => cases b <;> rfl
  | cons c cs ih => rw [utf8Len_cons, List.cons_append, byteSplit_cons, ih]; rfl

end Txt
