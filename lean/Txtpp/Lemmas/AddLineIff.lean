import Txtpp.Model.Text
/-! C15's second sentence: `add_line` accepts exactly the continuation lines of the grammar. `addLine_eq` is the
    function as a plain chain of `if`s; the three accepted forms overlap, and where two apply they give the same
    argument (`addLine_complete`). -/
namespace Txt

theorem utf8Len_cons (c : Char) (cs : Str) : utf8Len (c :: cs) = c.utf8Size + utf8Len cs := by
  simp [utf8Len]

theorem utf8Len_ge_length (s : Str) : s.length ≤ utf8Len s := by
  induction s with
  | nil => exact Nat.zero_le _
  | cons c cs ih =>
    have := Char.utf8Size_pos c
    rw [utf8Len_cons, List.length_cons]; omega

theorem utf8Len_spaces (n : Nat) : utf8Len (spaces n) = n := by
  induction n with
  | zero => rfl
  | succ n ih => rw [spaces, List.replicate_succ, utf8Len_cons, ← spaces, ih]; exact Nat.add_comm 1 n

theorem length_spaces (n : Nat) : (spaces n).length = n := List.length_replicate

theorem trimEnd_sublist (s : Str) : (trimEnd s).Sublist s := by
  have := (List.dropWhile_sublist (l := s.reverse) isWs).reverse
  rwa [List.reverse_reverse] at this

theorem trim_sublist (s : Str) : (trim s).Sublist s :=
  (trimEnd_sublist _).trans (List.dropWhile_sublist _)

theorem prefix_spaces (p : Str) (n : Nat) (h : p <+: spaces n) : p = spaces p.length :=
  List.eq_replicate_iff.2 ⟨rfl, fun _ hc => (List.mem_replicate.1 (h.subset hc)).2⟩

theorem append_drop_of_isPrefixOf {p l : Str} (h : p.isPrefixOf l = true) : p ++ l.drop p.length = l :=
  List.prefix_iff_eq_append.1 (List.isPrefixOf_iff_prefix.1 h)

/-- `addLine` with the lets and the negation gone -/
theorem addLine_eq (d : Directive) (line : Str) : addLine d line =
    if d.ty.multi = true ∧ d.ws.isPrefixOf line = true then
      if line.drop d.ws.length = trimEnd d.pre then some (d.push [])
      else if d.pre.isPrefixOf (line.drop d.ws.length) = true then
        some (d.push (trimEnd ((line.drop d.ws.length).drop d.pre.length)))
      else if (spaces (utf8Len d.pre)).isPrefixOf (line.drop d.ws.length) = true then
        some (d.push (trimEnd ((line.drop d.ws.length).drop (utf8Len d.pre))))
      else none
    else none := by
  unfold addLine
  cases d.ty.multi <;> cases d.ws.isPrefixOf line <;> rfl

theorem eq_nil_of_append_eq_trimEnd {p r pre : Str} (h : p ++ r = trimEnd pre) (hl : pre.length ≤ p.length) : r = [] := by
  have h1 := congrArg List.length h
  have h2 := (trimEnd_sublist pre).length_le
  rw [List.length_append] at h1
  exact List.eq_nil_of_length_eq_zero (by omega)

theorem addLine_complete (d : Directive) (line a : Str) (hm : d.ty.multi = true) (h : Continues d line a) :
    addLine d line = some (d.push a) := by
  obtain ⟨rest, rfl, hc⟩ := h
  have pre_append : ∀ p r : Str, p.isPrefixOf (p ++ r) = true := fun p r =>
    List.isPrefixOf_iff_prefix.2 (List.prefix_append _ _)
  have hle : d.pre.length ≤ (spaces (utf8Len d.pre)).length := (length_spaces _).symm ▸ utf8Len_ge_length d.pre
  have hdrop : ∀ r, (spaces (utf8Len d.pre) ++ r).drop (utf8Len d.pre) = r := fun r => by
    have := List.drop_left (l₁ := spaces (utf8Len d.pre)) (l₂ := r)
    rwa [length_spaces] at this
  rw [addLine_eq, if_pos ⟨hm, pre_append _ _⟩, List.drop_left]
  rcases hc with ⟨h1, rfl⟩ | ⟨r, rfl, rfl⟩ | ⟨r, rfl, rfl⟩
  · rw [if_pos h1]
  · by_cases h1 : d.pre ++ r = trimEnd d.pre
    · rw [if_pos h1, eq_nil_of_append_eq_trimEnd h1 (Nat.le_refl _)]; rfl
    · rw [if_neg h1, if_pos (pre_append _ _), List.drop_left]
  · by_cases h1 : spaces (utf8Len d.pre) ++ r = trimEnd d.pre
    · rw [if_pos h1, eq_nil_of_append_eq_trimEnd h1 hle]; rfl
    · rw [if_neg h1]
      by_cases h2 : d.pre.isPrefixOf (spaces (utf8Len d.pre) ++ r) = true
      · -- then the prefix consists of spaces only, so both readings drop the same text
        have hpre : d.pre <+: spaces (utf8Len d.pre) :=
          List.prefix_of_prefix_length_le (List.isPrefixOf_iff_prefix.1 h2) (List.prefix_append _ _) hle
        have hlen : utf8Len d.pre = d.pre.length := by
          have := utf8Len_spaces d.pre.length
          rwa [← prefix_spaces _ _ hpre] at this
        rw [if_pos h2, ← hlen, hdrop]
      · rw [if_neg h2, if_pos (pre_append _ _), hdrop]

/-- C15, second sentence: `add_line` accepts exactly the continuation lines the grammar describes,
    and appends exactly the right-trimmed remainder. -/
theorem addLine_iff (d d' : Directive) (line : Str) :
    addLine d line = some d' ↔ d.ty.multi = true ∧ ∃ a, Continues d line a ∧ d' = d.push a := by
  constructor
  · intro h
    rw [addLine_eq] at h
    obtain ⟨hc, h⟩ := Option.ite_none_right_eq_some.1 h
    refine ⟨hc.1, ?_⟩
    have hline := (append_drop_of_isPrefixOf hc.2).symm
    generalize line.drop d.ws.length = rest at h hline
    by_cases h1 : rest = trimEnd d.pre
    · rw [if_pos h1] at h
      exact ⟨[], ⟨rest, hline, .inl ⟨h1, rfl⟩⟩, (Option.some.inj h).symm⟩
    rw [if_neg h1] at h
    by_cases h2 : d.pre.isPrefixOf rest = true
    · rw [if_pos h2] at h
      exact ⟨_, ⟨rest, hline, .inr (.inl ⟨_, (append_drop_of_isPrefixOf h2).symm, rfl⟩)⟩, (Option.some.inj h).symm⟩
    rw [if_neg h2] at h
    obtain ⟨h3, h⟩ := Option.ite_none_right_eq_some.1 h
    have := (append_drop_of_isPrefixOf h3).symm
    rw [length_spaces] at this
    exact ⟨_, ⟨rest, hline, .inr (.inr ⟨_, this, rfl⟩)⟩, (Option.some.inj h).symm⟩
  · rintro ⟨hm, a, hc, rfl⟩
    exact addLine_complete d line a hm hc

end Txt
