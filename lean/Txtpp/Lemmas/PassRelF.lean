import Txtpp.Lemmas.RunPassRel
/-! One `preprocess` call from two agreeing file systems, in the form that composes over the passes of
    a whole project: first-pass aware (`SafeTo`), with everything the pass itself generates counted as
    stale while it runs. `trSame_sound` / `trNeeded_sound` say that the stale-set transformers of
    `Model/ProjSafe.lean` compute what these theorems give. -/
namespace Txt
open Refine (Sem machine parse Block OptRel)

/-- **one pass, composable form** (build or only-if-needed on both sides): from file systems agreeing
    outside `S`, with `S0 = generated ++ S` (everything this pass may write counts as stale while it
    runs): same outcome, afterwards agreement outside `S0`, and after an `ok` pass outside
    `Sfin` minus the output. -/
theorem runPass_relF (cfg : Cfg) (hm : cfg.mode = .build ∨ cfg.mode = .inMemory) (a b : FS) (S : List Path) (src : Path) (first : Bool)
    (hag : Agree S a b) (hsrc : src ∉ S) :
    (a.file? src = none ∨ outputPath src = none →
      (runPass cfg a src first).1 = (runPass cfg b src first).1 ∧ Agree S (runPass cfg a src first).2 (runPass cfg b src first).2) ∧
    (∀ content o, a.file? src = some content → outputPath src = some o →
      (srcBlocks cfg.mode (decodeLines (byteLines content.toList)).1 = none →
        (runPass cfg a src first).1 = (runPass cfg b src first).1 ∧ Agree S (runPass cfg a src first).2 (runPass cfg b src first).2) ∧
      (∀ bs Sfin, srcBlocks cfg.mode (decodeLines (byteLines content.toList)).1 = some bs →
        ProbesOK cfg a src.dropLast (generated cfg a src.dropLast o bs ++ S) bs →
        SafeTo cfg a src.dropLast first bs (generated cfg a src.dropLast o bs ++ S) Sfin →
        (runPass cfg a src first).1 = (runPass cfg b src first).1 ∧
        Agree (generated cfg a src.dropLast o bs ++ S) (runPass cfg a src first).2 (runPass cfg b src first).2 ∧
        ((runPass cfg a src first).1 = .ok →
          Agree (Sfin.filter (· != o)) (runPass cfg a src first).2 (runPass cfg b src first).2))) := by
  have hfb : b.file? src = a.file? src := (hag.2 src hsrc).symm
  refine ⟨fun hn => ?_, fun content o hfile hout => ?_⟩
  · rw [runPass_nosrc cfg a src first hn, runPass_nosrc cfg b src first (hfb ▸ hn)]; exact ⟨rfl, hag⟩
  rw [runPass_eq cfg a src first content o hfile hout, runPass_eq cfg b src first content o (hfb ▸ hfile) hout, runPassAt_eq, runPassAt_eq]
  have hS0 : ∀ bs q, q ∈ S → q ∈ generated cfg a src.dropLast o bs ++ S := fun _ _ hq => List.mem_append_right _ hq
  rcases sinkStart_rel cfg.mode hm S a b o hag with ⟨n1, n2⟩ | ⟨a1, b1, ha, hb, hda, hag1⟩
  · rw [n1, n2]; exact ⟨fun _ => ⟨rfl, hag⟩, fun bs _ _ _ _ => ⟨rfl, hag.mono (hS0 bs), fun h => by cases h⟩⟩
  · rw [ha, hb]
    dsimp only
    have hag1 := hag1.mono (staleOpen_sub cfg.mode S o)
    refine ⟨fun hbs => ?_, fun bs Sfin hbs hpr hsf => ?_⟩
    · rw [srcPass_parse_none cfg src first content a1 hbs, srcPass_parse_none cfg src first content b1 hbs]
      exact ⟨rfl, hag1⟩
    · exact closePass_rel cfg.mode cfg.mode hm hm o
        (srcPass_core true cfg cfg.mode (ne_clean hm) (ne_clean hm) src first content
          hbs (hag1.mono (hS0 bs)) hda
          (fun _ => ⟨(agree_closed cfg.mode _ a).sinkStart (List.mem_append_left _ (self_mem_generated ..)) ha (Agree.refl _ a),
            writesIn_generated cfg a src.dropLast o bs S⟩)
          hsf hpr) (hag1.mono (hS0 bs)) hda (Or.inl rfl)

/-- **C09, one pass, composable form**: a normal build pass from `a` and an only-if-needed pass from `b`. -/
theorem needed_pass_relF (cfg : Cfg) (hb : cfg.mode = .build) (a b : FS) (S : List Path) (src : Path) (first : Bool)
    (hag : Agree S a b) (hsrc : src ∉ S) :
    (a.file? src = none ∨ outputPath src = none →
      (runPass cfg a src first).1 = (runPass cfg.toNeeded b src first).1 ∧
      Agree S (runPass cfg a src first).2 (runPass cfg.toNeeded b src first).2) ∧
    (∀ content o, a.file? src = some content → outputPath src = some o → a.isDir o = false →
      (srcBlocks .build (decodeLines (byteLines content.toList)).1 = none →
        (runPass cfg a src first).1 = (runPass cfg.toNeeded b src first).1 ∧
        Agree (o :: S) (runPass cfg a src first).2 (runPass cfg.toNeeded b src first).2) ∧
      (∀ bs Sfin, srcBlocks .build (decodeLines (byteLines content.toList)).1 = some bs →
        ProbesOK cfg a src.dropLast (generated cfg a src.dropLast o bs ++ S) bs →
        SafeTo cfg a src.dropLast first bs (generated cfg a src.dropLast o bs ++ S) Sfin →
        (runPass cfg a src first).1 = (runPass cfg.toNeeded b src first).1 ∧
        Agree (generated cfg a src.dropLast o bs ++ S) (runPass cfg a src first).2 (runPass cfg.toNeeded b src first).2 ∧
        ((runPass cfg a src first).1 = .ok →
          Agree (Sfin.filter (· != o)) (runPass cfg a src first).2 (runPass cfg.toNeeded b src first).2))) := by
  have hfb : b.file? src = a.file? src := (hag.2 src hsrc).symm
  refine ⟨fun hn => ?_, fun content o hfile hout hd => ?_⟩
  · rw [runPass_nosrc cfg a src first hn, runPass_nosrc cfg.toNeeded b src first (hfb ▸ hn)]; exact ⟨rfl, hag⟩
  -- the build truncates the output when it opens it, the only-if-needed build leaves it
  rw [runPass_eq cfg a src first content o hfile hout, runPass_eq cfg.toNeeded b src first content o (hfb ▸ hfile) hout,
    runPassAt_eq, runPassAt_eq, sinkStart_build_eq hb hd, show sinkStart cfg.toNeeded.mode b o = some b from rfl]
  dsimp only
  refine ⟨fun hbs => ?_, fun bs Sfin hbs hpr hsf => ?_⟩
  · rw [srcPass_parse_none cfg src first content _ (hb ▸ hbs),
      srcPass_parse_none cfg.toNeeded src first content b ((srcBlocks_needed _).trans hbs)]
    exact ⟨rfl, hag.write_left o⟩
  · have hoS0 : o ∈ generated cfg a src.dropLast o bs ++ S := List.mem_append_left _ (self_mem_generated ..)
    have hframe : Agree (generated cfg a src.dropLast o bs ++ S) a (a.write o ByteArray.empty) := Agree.write_mem a o _ hoS0
    have hag1 := hframe.symm.trans (hag.mono (fun q hq => List.mem_append_right _ hq))
    exact closePass_rel cfg.mode .inMemory (Or.inl hb) (Or.inr rfl) o
      (srcPass_core true cfg .inMemory (ne_clean (Or.inl hb)) (by decide) (fs0 := a) src first content
        (hb ▸ hbs) hag1 rfl (fun _ => ⟨hframe, writesIn_generated cfg a src.dropLast o bs S⟩) hsf hpr)
      hag1 rfl (Or.inr hd)

/-- the part `trSame` and `trNeeded` share: where the side conditions are checked, the stale set answered
    is the one the pass theorem (`hpass`) gives for the outcome -/
theorem tr_checked (cfg : Cfg) (a : FS) (S S' : List Path) (src : Path) (first : Bool) (oc : Outcome) (o : Path)
    (bs : List (Block Directive))
    (h : (if probesB cfg a src.dropLast (generated cfg a src.dropLast o bs ++ S) bs then
        match safeToB cfg a src.dropLast first bs (generated cfg a src.dropLast o bs ++ S) with
        | some Sfin => some (if oc = .ok then Sfin.filter (· != o) else generated cfg a src.dropLast o bs ++ S)
        | none => none
      else none) = some S') {P : Prop} {x y : FS}
    (hpass : ∀ Sfin, ProbesOK cfg a src.dropLast (generated cfg a src.dropLast o bs ++ S) bs →
      SafeTo cfg a src.dropLast first bs (generated cfg a src.dropLast o bs ++ S) Sfin →
      P ∧ Agree (generated cfg a src.dropLast o bs ++ S) x y ∧ (oc = .ok → Agree (Sfin.filter (· != o)) x y)) :
    P ∧ Agree S' x y := by
  split at h
  · rename_i hp
    split at h
    · rename_i Sfin hs
      cases h
      obtain ⟨r1, r2, r3⟩ := hpass Sfin ((probesB_iff cfg a _ _ bs).1 hp) (safeToB_spec cfg a _ first bs _ _ hs)
      refine ⟨r1, ?_⟩
      split
      · rename_i hok; exact r3 hok
      · exact r2
    · cases h
  · cases h

theorem trSame_sound (cfg : Cfg) (hm : cfg.mode = .build ∨ cfg.mode = .inMemory) (a b : FS) (S S' : List Path) (src : Path)
    (first : Bool) (hag : Agree S a b) (h : trSame cfg a S src first (runPass cfg a src first).1 = some S') :
    (runPass cfg a src first).1 = (runPass cfg b src first).1 ∧
    Agree S' (runPass cfg a src first).2 (runPass cfg b src first).2 := by
  unfold trSame at h
  by_cases hsrc : S.contains src = true
  · rw [if_pos hsrc] at h; cases h
  rw [if_neg hsrc] at h
  obtain ⟨hno, hyes⟩ := runPass_relF cfg hm a b S src first hag (by simpa using hsrc)
  cases hfile : a.file? src with
  | none => rw [hfile] at h; cases h; exact hno (Or.inl hfile)
  | some content =>
    cases hout : outputPath src with
    | none => rw [hfile, hout] at h; cases h; exact hno (Or.inr hout)
    | some o =>
      rw [hfile, hout] at h
      dsimp only at h
      obtain ⟨hnone, hsome⟩ := hyes content o hfile hout
      cases hbs : srcBlocks cfg.mode (decodeLines (byteLines content.toList)).1 with
      | none => rw [hbs] at h; cases h; exact hnone hbs
      | some bs =>
        rw [hbs] at h
        exact tr_checked cfg a S S' src first _ o bs h (fun Sfin => hsome bs Sfin hbs)

/-- `trNeeded` also checks that the output path is no directory, and an unparsable source leaves its output
    path stale (the build has truncated it) -/
theorem trNeeded_sound (cfg : Cfg) (hb : cfg.mode = .build) (a b : FS) (S S' : List Path) (src : Path)
    (first : Bool) (hag : Agree S a b) (h : trNeeded cfg a S src first (runPass cfg a src first).1 = some S') :
    (runPass cfg a src first).1 = (runPass cfg.toNeeded b src first).1 ∧
    Agree S' (runPass cfg a src first).2 (runPass cfg.toNeeded b src first).2 := by
  unfold trNeeded at h
  by_cases hsrc : S.contains src = true
  · rw [if_pos hsrc] at h; cases h
  rw [if_neg hsrc] at h
  obtain ⟨hno, hyes⟩ := needed_pass_relF cfg hb a b S src first hag (by simpa using hsrc)
  cases hfile : a.file? src with
  | none => rw [hfile] at h; cases h; exact hno (Or.inl hfile)
  | some content =>
    cases hout : outputPath src with
    | none => rw [hfile, hout] at h; cases h; exact hno (Or.inr hout)
    | some o =>
      rw [hfile, hout] at h
      dsimp only at h
      by_cases hdir : a.isDir o = true
      · rw [if_pos hdir] at h; cases h
      rw [if_neg hdir] at h
      obtain ⟨hnone, hsome⟩ := hyes content o hfile hout (by simpa using hdir)
      cases hbs : srcBlocks .build (decodeLines (byteLines content.toList)).1 with
      | none => rw [hbs] at h; cases h; exact hnone hbs
      | some bs =>
        rw [hbs] at h
        exact tr_checked cfg a S S' src first _ o bs h (fun Sfin => hsome bs Sfin hbs)

end Txt
