import Txtpp.Lemmas.CoordTop
/-! Dependency paths and cycles: in a finite set in which every member has a successor inside the set every
    member reaches a cycle; at quiescence the waiting files are such a set. -/
namespace Coord

inductive Path (deps : File → List File) : File → File → Prop where
  | refl (f : File) : Path deps f f
  | step (f d g : File) : d ∈ deps f → Path deps d g → Path deps f g

theorem Path.trans {deps} {a b c : File} (h1 : Path deps a b) (h2 : Path deps b c) : Path deps a c := by
  induction h1 with
  | refl => exact h2
  | step f d g hd _ ih => exact Path.step f d c hd (ih h2)

theorem Path.snoc {deps} {a b c : File} (h1 : Path deps a b) (h2 : c ∈ deps b) : Path deps a c :=
  h1.trans (Path.step b c c h2 (Path.refl c))

theorem Path.mem_of_closed {deps : File → List File} {S : File → Prop} (hcl : ∀ a, S a → ∀ d ∈ deps a, S d)
    {a b : File} (hp : Path deps a b) (ha : S a) : S b := by
  induction hp with
  | refl => exact ha
  | step a d b hd _ ih => exact ih (hcl a ha d hd)

/-- `f` can reach a file that lies on a cycle -/
def ReachesCycle (deps : File → List File) (f : File) : Prop :=
  ∃ g d, Path deps f g ∧ d ∈ deps g ∧ Path deps d g

theorem reaches_cycle_of_closed (deps : File → List File) (V : List File)
    (hV : ∀ x ∈ V, ∃ y, y ∈ deps x ∧ y ∈ V) (x : File) (hx : x ∈ V) : ReachesCycle deps x := by
  -- extend a duplicate-free path `p` from `x` (last member `z`) inside `V` until the successor of `z` is on it
  have aux : ∀ k : Nat, ∀ (p : List File) (z : File), p.Nodup → (∀ y ∈ p, y ∈ V) → z ∈ p →
      (∀ y ∈ p, Path deps x y ∧ Path deps y z) → V.length < p.length + k → ReachesCycle deps x := by
    intro k
    induction k with
    | zero => intro p z hp hpV _ _ hk; exact absurd (hp.length_le_of_subset hpV) (by omega)
    | succ k ih =>
      intro p z hp hpV hz hpath hk
      obtain ⟨y, hy, hyV⟩ := hV z (hpV z hz)
      by_cases hyp : y ∈ p
      · exact ⟨z, y, (hpath z hz).1, hy, (hpath y hyp).2⟩
      · exact ih (y :: p) y (List.nodup_cons.2 ⟨hyp, hp⟩) (List.forall_mem_cons.2 ⟨hyV, hpV⟩) List.mem_cons_self
          (List.forall_mem_cons.2 ⟨⟨(hpath z hz).1.snoc hy, Path.refl y⟩,
            fun a ha => ⟨(hpath a ha).1, (hpath a ha).2.snoc hy⟩⟩) (by rw [List.length_cons]; omega)
  exact aux V.length [x] x (by simp) (by simpa using hx) (by simp) (by simp; exact Path.refl x) (by simp)

/-- C05 (⇐): at quiescence every file that is still waiting can reach a dependency cycle -/
theorem waiting_reaches_cycle (w : World) (inputs : List File) (s : St) (h : Reach w inputs s) (hq : s.pool = [])
    (f : File) (hf : ∃ d, f ∈ s.dm.inE d) : ReachesCycle w.deps f := by
  have hI := reach_inv w inputs s h
  -- V = the seen files that are not finished; at quiescence all of them wait
  let V := s.seen.filter (fun x => decide (x ∉ s.dm.fin))
  have hVmem : ∀ x, x ∈ V ↔ x ∈ s.seen ∧ x ∉ s.dm.fin := by intro x; simp [V]
  have hwait : ∀ x, x ∈ V → ∃ d, x ∈ s.dm.inE d := fun x hx =>
    (quiescent_cover w inputs s h hq x ((hVmem x).1 hx).1).resolve_right ((hVmem x).1 hx).2
  apply reaches_cycle_of_closed w.deps V
  · intro x hx
    obtain ⟨d, hd1, hd2, e, hd3⟩ := waiting_has_waiting_dep w inputs s h hq x (hwait x hx)
    exact ⟨d, hd1, (hVmem d).2 ⟨hd2, hI.ex3 d e hd3⟩⟩
  · obtain ⟨d, hd⟩ := hf
    exact (hVmem f).2 ⟨(hI.edge d f hd).2.2.2, hI.ex3 f d hd⟩

#print axioms waiting_reaches_cycle
end Coord
