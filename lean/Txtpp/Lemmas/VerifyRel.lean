import Txtpp.Lemmas.RunPassRel
/-! C06: a verify pass succeeds exactly when a build pass of the same source from the same tree
    succeeds and leaves the output file with the bytes it already has; and, from trees holding the same
    files, a verify pass fails or does what the only-if-needed build pass does; `trVerify_sound` is the verify
    counterpart of `trSame_sound` / `trNeeded_sound` (`PassRelF.lean`). -/
namespace Txt
open Refine (Block)

/-- **C06, one pass**: verify succeeds iff a build pass from the same tree succeeds and writes to
    the output path exactly the bytes that are already there -/
theorem verify_pass_iff (cfg : Cfg) (hb : cfg.mode = .build) (a : FS) (src : Path) (first : Bool)
    (content : ByteArray) (o : Path) (bs : List (Block Directive))
    (hfile : a.file? src = some content) (hout : outputPath src = some o) (hnd : a.isDir o = false)
    (hbs : srcBlocks .build (decodeLines (byteLines content.toList)).1 = some bs)
    (hsafe : Safe cfg a src.dropLast bs [o]) (hprobes : ProbesOK cfg a src.dropLast [o] bs)
    (hnot : ∀ d e, Block.dir d e ∈ bs → dirWrites cfg a src.dropLast d ≠ some o) :
    (runPass cfg.toVerify a src first).1 = .ok ↔
      ((runPass cfg a src first).1 = .ok ∧ (runPass cfg a src first).2.file? o = a.file? o) := by
  have hmc : cfg.mode ≠ .clean := by rw [hb]; decide
  have hbs' : srcBlocks cfg.mode (decodeLines (byteLines content.toList)).1 = some bs := hb ▸ hbs
  rw [runPass_eq cfg.toVerify a src first content o hfile hout, runPass_eq cfg a src first content o hfile hout,
    runPassAt_eq, runPassAt_eq, sinkStart_build_eq hb hnd,
    show sinkStart cfg.toVerify.mode a o = if a.pathExists o then some a else none from rfl,
    show a.pathExists o = a.isFile o by simp [FS.pathExists, hnd]]
  dsimp only
  cases hf : a.isFile o with
  | false =>
    -- no output to verify: a build would create it
    have hnone : a.file? o = none := by simpa [FS.isFile] using hf
    rw [if_neg (by simp)]
    dsimp only
    constructor
    · intro h; cases h
    rintro ⟨h1, h2⟩
    rcases hr : srcPass cfg src first content (a.write o ByteArray.empty) with _ | _ | _ <;> rw [hr] at h1 h2
    · simp [closePass, hb, sinkEnd, hnone] at h2
    · cases h1
    · cases h1
  | true =>
    rw [if_pos rfl]
    dsimp only
    rw [show srcPass cfg.toVerify src first content a = _ from srcPass_mode cfg .verify hmc (by decide) src first content a]
    -- the build line loop starts from the truncated tree, the verify one from `a`: they agree outside `[o]`, so both
    -- compute the same `out` (`srcPass_core`); closing then compares `out` with `a.file? o` on both sides
    have hrel : PassResRel a [o] _ (srcPass cfg src first content (a.write o ByteArray.empty)) (srcPass cfg src first content a) :=
      srcPass_core false cfg cfg.mode hmc hmc (fs0 := a) src first content hbs' ((Agree.refl [] a).write_left o) rfl
        (fun h => nomatch h) ((safeTo_false_iff ..).2 ⟨hsafe, rfl⟩) hprobes
    -- the verify pass leaves the output path alone: it is no temp target
    have hsc := ppPass_closed cfg src.dropLast (joinPath src) (sniffLE content.toList) first a a
      (TempTarget cfg a src.dropLast (decodeLines (byteLines content.toList)).1) _ (decodeLines (byteLines content.toList)).1
      (decodeLines (byteLines content.toList)).2 (scope_closed a) (fun _ hp => hp) (Scope.refl a _) rfl
    have hnt : ¬ TempTarget cfg a src.dropLast (decodeLines (byteLines content.toList)).1 o := by
      intro ht
      obtain ⟨d, e, hm, hw⟩ := tempTarget_dirWrites cfg a src.dropLast _ bs hbs' o ht
      exact hnot d e hm hw
    change PassPost _ (srcPass cfg src first content a) at hsc
    rcases hrel.cases with ⟨ea, eb⟩ | ⟨deps, a2, b2, ea, eb, _⟩ | ⟨out, a2, b2, ea, eb, _⟩ <;> rw [ea, eb]
    · simp [closePass]
    · simp [closePass]
    · rw [eb] at hsc
      have hb2 : b2.file? o = a.file? o := hsc.1.2.2 o hnt
      simp only [closePass, hb, Cfg.toVerify, sinkEnd, hb2, file?_write_same, true_and]
      by_cases he : a.file? o = some (encodeUtf8 out)
      · simp [he]
      · simp [he]; exact fun h => he h.symm

/-- where the executable side condition answers `true`: verify passes iff the output is up to date -/
theorem verify_iff_where_checked (cfg : Cfg) (hb : cfg.mode = .build) (a : FS) (src : Path) (first : Bool)
    (hs : srcSafeB cfg a src = some true) :
    ∃ o, outputPath src = some o ∧
      ((runPass cfg.toVerify a src first).1 = .ok ↔
        ((runPass cfg a src first).1 = .ok ∧ (runPass cfg a src first).2.file? o = a.file? o)) := by
  obtain ⟨content, o, bs, hfile, hout, hbs, _, hsafe, hprobes, hnd, hnot⟩ := srcSafeB_true cfg a src hs
  exact ⟨o, hout, verify_pass_iff cfg hb a src first content o bs hfile hout hnd (hb ▸ hbs)
    (hsafe.mono (singleton_sub_generated cfg a o bs)) (hprobes.mono (singleton_sub_generated cfg a o bs)) hnot⟩

/-- **one pass, only-if-needed vs verify, from trees holding the same files**: verify fails, or the two
    passes have the same outcome and leave the same files (the only-if-needed pass found its output
    already equal and wrote nothing). No side condition on what the source reads: the trees are equal. -/
theorem needed_vs_verify_pass (cfg : Cfg) (a b : FS) (src : Path) (first : Bool) (hag : Agree [] a b)
    (hnd : ∀ o, outputPath src = some o → a.isDir o = false) :
    (runPass cfg.toVerify b src first).1 = .err ∨
    ((runPass cfg.toNeeded a src first).1 = (runPass cfg.toVerify b src first).1 ∧
     Agree [] (runPass cfg.toNeeded a src first).2 (runPass cfg.toVerify b src first).2) := by
  rcases runPass_pair cfg.toNeeded cfg.toVerify src first hag (by simp) with ⟨_, eb⟩ | ⟨content, o, hfile, hout, ea, eb⟩ <;>
    rw [eb]
  · exact Or.inl rfl
  rw [ea, runPassAt_eq, runPassAt_eq, show sinkStart cfg.toNeeded.mode a o = some a from rfl,
    show sinkStart cfg.toVerify.mode b o = if b.pathExists o then some b else none from rfl]
  by_cases hex : b.pathExists o = true
  · rw [if_pos hex]
    dsimp only
    cases hbs : srcBlocks cfg.toNeeded.mode (decodeLines (byteLines content.toList)).1 with
    | none =>
      rw [srcPass_parse_none cfg.toVerify src first content b
        ((srcBlocks_mode .verify .inMemory (by decide) (by decide) _).trans hbs)]
      exact Or.inl rfl
    | some bs =>
      -- nothing is stale, so nothing read can be
      have hrel : PassResRel a [] _ (srcPass cfg.toNeeded src first content a) (srcPass cfg.toVerify src first content b) :=
        srcPass_core false cfg.toNeeded .verify
          (show Mode.inMemory ≠ .clean by decide) (by decide)
          (fs0 := a) src first content hbs hag rfl (fun h => nomatch h)
          (safeTo_nil _ a _ false bs) (probesOK_nil _ a _ bs)
      rcases hrel.cases with ⟨_, eb⟩ | ⟨deps, a2, b2, ea, eb, _, h2⟩ | ⟨out, a2, b2, ea, eb, hda2, h2, _⟩ <;> rw [eb]
      · exact Or.inl rfl
      · rw [ea]; exact Or.inr ⟨rfl, h2⟩
      · have ha2d : a2.isDir o = false := (isDir_dirs hda2 o).trans (hnd o hout)
        rw [ea]
        simp only [closePass, Cfg.toNeeded, Cfg.toVerify, sinkEnd, ha2d, Bool.false_eq_true, if_false]
        rw [← h2.2 o (by simp)]
        -- the only-if-needed build writes exactly when verify fails
        by_cases he : a2.file? o = some (encodeUtf8 out)
        · right; simp only [if_pos he]; exact ⟨trivial, h2⟩
        · left; simp only [if_neg he]
  · rw [if_neg hex]; exact Or.inl rfl

theorem trVerify_some (a : FS) (S S' : List Path) (src : Path) (first : Bool) (oc : Outcome)
    (h : trVerify a S src first oc = some S') : S = [] ∧ S' = [] ∧ ∀ o, outputPath src = some o → a.isDir o = false := by
  unfold trVerify at h
  split at h
  · rename_i o hout
    split at h
    · cases h
    · rename_i hd
      split at h
      · rename_i he; cases h; exact ⟨by simpa using he, rfl, fun o' ho' => by rw [hout] at ho'; cases ho'; simpa using hd⟩
      · cases h
  · split at h
    · rename_i he; cases h; exact ⟨by simpa using he, rfl, fun o ho => by simp_all⟩
    · cases h

theorem trVerify_sound (cfg : Cfg) (a b : FS) (S S' : List Path) (src : Path) (first : Bool) (hag : Agree S a b)
    (h : trVerify a S src first (runPass cfg.toNeeded a src first).1 = some S') :
    (runPass cfg.toVerify b src first).1 = .err ∨
    ((runPass cfg.toNeeded a src first).1 = (runPass cfg.toVerify b src first).1 ∧
     Agree S' (runPass cfg.toNeeded a src first).2 (runPass cfg.toVerify b src first).2) := by
  obtain ⟨rfl, rfl, h3⟩ := trVerify_some a S S' src first _ h
  exact needed_vs_verify_pass cfg a b src first hag h3

theorem trVerify_nil (a : FS) (S S' : List Path) (src : Path) (first : Bool) (oc : Outcome)
    (h : trVerify a S src first oc = some S') : S' = [] := (trVerify_some a S S' src first oc h).2.1

end Txt
