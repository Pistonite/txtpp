import Txtpp.Model.Coord
/-! `execFiles` in closed form for either pass, the three shapes of `World.result`, and what one
    iteration of the coordinator loop (`handle`) does to the state. Everything later about scheduling
    is read off these equations instead of unfolding the loops again. -/
namespace Coord

/-- The first occurrences in `l` of the elements not in `seen`: what a loop that starts every item
    once (`execute_file` on a first pass, `execute_directory`) really starts, in order. -/
def fresh {α} [DecidableEq α] (seen : List α) : List α → List α
  | [] => []
  | a :: l => if a ∈ seen then fresh seen l else a :: fresh (a :: seen) l

section fresh
variable {α} [DecidableEq α]

theorem mem_fresh {seen l : List α} {x : α} : x ∈ fresh seen l ↔ x ∈ l ∧ x ∉ seen := by
  induction l generalizing seen with
  | nil => simp [fresh]
  | cons a l ih =>
    unfold fresh; split
    · rename_i ha
      rw [ih, List.mem_cons]
      exact ⟨fun h => ⟨Or.inr h.1, h.2⟩, fun h => ⟨h.1.resolve_left fun e => h.2 (e ▸ ha), h.2⟩⟩
    · rename_i ha
      rw [List.mem_cons, ih, List.mem_cons, List.mem_cons]
      by_cases hx : x = a
      · subst hx; simp [ha]
      · simp [hx]

theorem fresh_nodup {seen l : List α} : (fresh seen l).Nodup := by
  induction l generalizing seen with
  | nil => exact List.nodup_nil
  | cons a l ih =>
    unfold fresh; split
    · exact ih
    · exact List.nodup_cons.2 ⟨fun h => (mem_fresh.1 h).2 List.mem_cons_self, ih⟩

theorem length_fresh_le (seen l : List α) : (fresh seen l).length ≤ l.length := by
  induction l generalizing seen with
  | nil => exact Nat.le_refl _
  | cons a l ih =>
    unfold fresh; split
    · exact Nat.le_succ_of_le (ih _)
    · exact Nat.succ_le_succ (ih _)

theorem fresh_reverse_append_nodup {seen : List α} (l : List α) (h : seen.Nodup) :
    ((fresh seen l).reverse ++ seen).Nodup :=
  List.nodup_append.2 ⟨List.pairwise_reverse.2 (fresh_nodup.imp Ne.symm), h,
    fun _ hx _ hy e => (mem_fresh.1 (List.mem_reverse.1 hx)).2 (e ▸ hy)⟩

end fresh

/-- the files for which `execFiles s fs first` starts a task: a first pass skips what is already seen -/
def started (seen fs : List File) : Bool → List File
  | true => fresh seen fs
  | false => fs

theorem mem_started {seen fs : List File} {b : Bool} {f : File} :
    f ∈ started seen fs b ↔ f ∈ fs ∧ (b = true → f ∉ seen) := by
  cases b
  · simp [started]
  · simp [started, mem_fresh]

theorem execFiles_cons (s : St) (f fs b) : execFiles s (f :: fs) b = execFiles (execFile s f b) fs b := rfl
theorem execFiles_nil (s : St) (b) : execFiles s [] b = s := rfl

theorem execFiles_eq (s : St) (fs : List File) (b : Bool) :
    execFiles s fs b =
      { s with seen := if b then (fresh s.seen fs).reverse ++ s.seen else s.seen,
               total := s.total + (started s.seen fs b).length,
               pool := s.pool ++ (started s.seen fs b).map (Task.pp · b) } := by
  induction fs generalizing s with
  | nil => cases b <;> simp [execFiles, started, fresh]
  | cons f fs ih =>
    rw [execFiles_cons, ih]
    cases b with
    | false => simp [execFile, started, Nat.add_assoc, Nat.add_comm 1]
    | true =>
      by_cases hf : f ∈ s.seen
      · simp [execFile, started, fresh, hf]
      · simp [execFile, started, fresh, hf, Nat.add_assoc, Nat.add_comm 1]

theorem execFiles_dm (s : St) (fs b) : (execFiles s fs b).dm = s.dm := by rw [execFiles_eq]
theorem execFiles_done (s : St) (fs b) : (execFiles s fs b).done = s.done := by rw [execFiles_eq]

theorem init_fin (inputs : List File) : (init inputs).dm.fin = [] := by rw [init, execFiles_dm]

theorem execFiles_pool (s : St) (fs b) :
    (execFiles s fs b).pool = s.pool ++ (started s.seen fs b).map (Task.pp · b) := by rw [execFiles_eq]

theorem execFiles_seen_false (s : St) (fs) : (execFiles s fs false).seen = s.seen := by rw [execFiles_eq]; rfl

theorem execFiles_seen_true (s : St) (fs) :
    (execFiles s fs true).seen = (fresh s.seen fs).reverse ++ s.seen := by rw [execFiles_eq]; rfl

theorem mem_execFiles_seen {s : St} {fs : List File} {b : Bool} {x : File} :
    x ∈ (execFiles s fs b).seen ↔ x ∈ s.seen ∨ (b = true ∧ x ∈ fs) := by
  cases b
  · simp [execFiles_seen_false]
  · rw [execFiles_seen_true, List.mem_append, List.mem_reverse, mem_fresh]
    by_cases x ∈ s.seen <;> simp [*]

theorem mem_execFiles_pool {s : St} {fs : List File} {b : Bool} {t : Task} :
    t ∈ (execFiles s fs b).pool ↔ t ∈ s.pool ∨ ∃ f ∈ fs, (b = true → f ∉ s.seen) ∧ t = Task.pp f b := by
  simp only [execFiles_pool, List.mem_append, List.mem_map, mem_started, and_assoc, eq_comm]

theorem execFiles_acct {s : St} {fs : List File} {b : Bool} (h : s.total = s.done + s.pool.length) :
    (execFiles s fs b).total = (execFiles s fs b).done + (execFiles s fs b).pool.length := by
  rw [execFiles_eq]; simp only [List.length_append, List.length_map]; omega

theorem execFiles_seen_nodup {s : St} {fs : List File} {b : Bool} (h : s.seen.Nodup) :
    (execFiles s fs b).seen.Nodup := by
  cases b
  · rwa [execFiles_seen_false]
  · rw [execFiles_seen_true]; exact fresh_reverse_append_nodup fs h

theorem execFiles_pool_nodup {s : St} {fs : List File} {b : Bool} (hp : s.pool.Nodup)
    (hst : (started s.seen fs b).Nodup) (hnew : ∀ f ∈ started s.seen fs b, Task.pp f b ∉ s.pool) :
    (execFiles s fs b).pool.Nodup := by
  rw [execFiles_pool, List.nodup_append]
  refine ⟨hp, List.Pairwise.map _ (fun _ _ h e => h (by cases e; rfl)) hst, ?_⟩
  intro t ht u hu e
  obtain ⟨f, hf, rfl⟩ := List.mem_map.1 hu
  exact hnew f hf (e ▸ ht)

theorem result_cases (w : World) (a : File) (first : Bool) :
    (w.result (.pp a first) = .err ∧ (w.failFirst a = true ∨ w.failFinal a = true)) ∨
    (w.result (.pp a first) = .ok a ∧ w.failFinal a = false ∧ (first = true → w.deps a = [])) ∨
    (w.result (.pp a first) = .hasDeps a (w.deps a) ∧ first = true ∧ w.deps a ≠ []) := by
  cases first <;> simp only [World.result]
  · cases w.failFinal a <;> simp
  · by_cases hd : w.deps a = []
    · cases w.failFirst a <;> cases w.failFinal a <;> simp [hd]
    · cases w.failFirst a <;> simp [hd]

theorem result_hasDeps {w : World} {t : Task} {a : File} {deps : List File} (h : w.result t = .hasDeps a deps) :
    t = .pp a true ∧ deps = w.deps a ∧ w.deps a ≠ [] := by
  obtain ⟨f, first⟩ := t
  rcases result_cases w f first with ⟨e, _⟩ | ⟨e, _⟩ | ⟨e, rfl, hd⟩ <;> rw [e] at h <;> cases h
  exact ⟨rfl, rfl, hd⟩

theorem result_failFinal {w : World} {f : File} (h : w.failFinal f = true) : w.result (.pp f false) = .err := by
  simp [World.result, h]

/-- C04 -/
theorem result_ok (w : World) (a b : File) (first : Bool) (h : w.result (.pp a first) = .ok b) :
    b = a ∧ w.failFinal a = false := by
  rcases result_cases w a first with ⟨e, _⟩ | ⟨e, hf, _⟩ | ⟨e, _⟩ <;> rw [e] at h <;> cases h
  exact ⟨rfl, hf⟩

theorem notifyFinish_fin {m m' : DepMgr} {b : File} {rel : List File} (h : notifyFinish m b = some (m', rel)) :
    m'.fin = b :: m.fin := by
  unfold notifyFinish at h; split at h <;> cases h; rfl

theorem addDependency_fin (m : DepMgr) (a : File) (ds : List File) : (addDependency m a ds).1.fin = m.fin := by
  unfold addDependency; split <;> rfl

theorem handle_ok {s : St} {b : File} {m' : DepMgr} {rel : List File} (h : notifyFinish s.dm b = some (m', rel)) :
    handle s (.ok b) = .cont (execFiles { s with done := s.done + 1, dm := m' } rel false) := by
  simp only [handle, h]

theorem handle_hasDeps {s : St} {a : File} {ds : List File} {m' : DepMgr} {added : Bool}
    (h : addDependency s.dm a ds = (m', added)) :
    handle s (.hasDeps a ds) =
      .cont (execFiles { s with done := s.done + 1, dm := m' } (if added then ds else [a]) added) := by
  simp only [handle, h]; cases added <;> rfl

/-- In the `hasDeps` case `b` is the flag `add_dependency` returns. With `b = false` (every dependency is finished
    already) `fs = [a]`: the second pass of `a` itself starts; no user needs that half, so it is not stated. -/
theorem handle_cont {s s' : St} {r : Res} (h : handle s r = .cont s') :
    ∃ m' fs b, s' = execFiles { s with done := s.done + 1, dm := m' } fs b ∧
      ((∃ a, r = .ok a ∧ m'.fin = a :: s.dm.fin ∧ b = false) ∨
       (∃ a ds, r = .hasDeps a ds ∧ m'.fin = s.dm.fin ∧ (b = true → fs = ds))) := by
  cases r with
  | err => cases h
  | ok a =>
    cases hn : notifyFinish s.dm a with
    | none => simp [handle, hn] at h
    | some p =>
      rw [handle_ok (m' := p.1) (rel := p.2) hn] at h; cases h
      exact ⟨_, _, _, rfl, Or.inl ⟨a, rfl, notifyFinish_fin hn, rfl⟩⟩
  | hasDeps a ds =>
    rw [handle_hasDeps (m' := (addDependency s.dm a ds).1) (added := (addDependency s.dm a ds).2) rfl] at h
    cases h
    exact ⟨_, _, _, rfl, Or.inr ⟨a, ds, rfl, addDependency_fin _ _ _, fun e => by rw [e]; rfl⟩⟩

theorem handle_ok_fin {s s' : St} {a : File} (h : handle s (.ok a) = .cont s') : s'.dm.fin = a :: s.dm.fin := by
  obtain ⟨_, _, _, rfl, ⟨_, e, hf, _⟩ | ⟨_, _, e, _⟩⟩ := handle_cont h <;> cases e
  rw [execFiles_dm]; exact hf

theorem handle_hasDeps_fin {s s' : St} {a : File} {ds : List File} (h : handle s (.hasDeps a ds) = .cont s') :
    s'.dm.fin = s.dm.fin := by
  obtain ⟨_, _, _, rfl, ⟨_, e, _⟩ | ⟨_, _, _, hf, _⟩⟩ := handle_cont h
  · cases e
  · rw [execFiles_dm]; exact hf

theorem handle_result_cont {w : World} {s s' : St} {t : Task} (h : handle s (w.result t) = .cont s') :
    (∃ a first, t = .pp a first ∧ w.result t = .ok a ∧ w.failFinal a = false ∧ (first = true → w.deps a = []) ∧
        s'.dm.fin = a :: s.dm.fin) ∨
    (∃ a, t = .pp a true ∧ w.result t = .hasDeps a (w.deps a) ∧ w.deps a ≠ [] ∧ s'.dm.fin = s.dm.fin) := by
  obtain ⟨a, first⟩ := t
  rcases result_cases w a first with ⟨e, _⟩ | ⟨e, hnf, hd⟩ | ⟨e, rfl, hd⟩ <;> rw [e] at h
  · cases h
  · exact Or.inl ⟨a, first, rfl, e, hnf, hd, handle_ok_fin h⟩
  · exact Or.inr ⟨a, rfl, e, hd, handle_hasDeps_fin h⟩

theorem handle_fin_mono {s s' : St} {r : Res} (h : handle s r = .cont s') : ∀ x ∈ s.dm.fin, x ∈ s'.dm.fin := by
  obtain ⟨_, _, _, rfl, ⟨_, _, hf, _⟩ | ⟨_, _, _, hf, _⟩⟩ := handle_cont h <;>
    rw [execFiles_dm] <;> intro x hx <;> simp [hf, hx]

theorem handle_fin {s s' : St} {r : Res} (h : handle s r = .cont s') : ∀ x ∈ s'.dm.fin, x ∈ s.dm.fin ∨ r = .ok x := by
  obtain ⟨_, _, _, rfl, ⟨a, rfl, hf, _⟩ | ⟨_, _, _, hf, _⟩⟩ := handle_cont h <;> rw [execFiles_dm, hf]
  · exact fun x hx => (List.mem_cons.1 hx).symm.imp id fun (e : x = a) => e ▸ rfl
  · exact fun x hx => Or.inl hx

theorem handle_seen_mono {s s' : St} {r : Res} (h : handle s r = .cont s') : ∀ x ∈ s.seen, x ∈ s'.seen := by
  obtain ⟨_, _, _, rfl, _⟩ := handle_cont h
  exact fun x hx => mem_execFiles_seen.2 (Or.inl hx)

theorem handle_seen {s s' : St} {r : Res} (h : handle s r = .cont s') :
    ∀ x ∈ s'.seen, x ∈ s.seen ∨ ∃ a deps, r = .hasDeps a deps ∧ x ∈ deps := by
  obtain ⟨_, fs, b, rfl, hr⟩ := handle_cont h
  intro x hx
  refine (mem_execFiles_seen.1 hx).imp id fun ⟨hb, hfs⟩ => ?_
  rcases hr with ⟨_, _, _, e⟩ | ⟨a, ds, rfl, _, hds⟩
  · cases hb.symm.trans e
  · exact ⟨a, ds, rfl, hds hb ▸ hfs⟩

theorem handle_pool_mono {s s' : St} {r : Res} (h : handle s r = .cont s') : ∀ u ∈ s.pool, u ∈ s'.pool := by
  obtain ⟨m', fs, b, rfl, _⟩ := handle_cont h
  exact fun u hu => mem_execFiles_pool.2 (Or.inl hu)

theorem init_pool (inputs : List File) : ∀ i ∈ inputs, Task.pp i true ∈ (init inputs).pool :=
  fun i hi => mem_execFiles_pool.2 (Or.inr ⟨i, hi, fun _ => nofun, rfl⟩)

theorem handle_pool_first {s s' : St} {r : Res} (h : handle s r = .cont s') {g : File} (hg : g ∈ s.seen)
    (hn : Task.pp g true ∉ s.pool) : Task.pp g true ∉ s'.pool := by
  obtain ⟨_, _, _, rfl, _⟩ := handle_cont h
  rw [mem_execFiles_pool]
  rintro (h | ⟨f, _, hf, e⟩)
  · exact hn h
  · cases e; exact hf rfl hg

end Coord
