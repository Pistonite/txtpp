import Txtpp.Model.Pp
/-! `execDirective` through lemmas of its own. Beside the definition (`Model/Pp.lean`) stand its two parts for the modes
    other than clean - the dependency look-up `collectDep` and the seven-way `execBody` - with
    `execDirective_eq` / `execDirective_clean` saying how it is made of them (used forwards, to compute
    what a directive does), and the inversion `execDirective_some` (used backwards, for everything that
    holds after a successful execution). -/
namespace Txt
variable {W : Type}

def PpMode.deps : PpMode → List Str
  | .collect ds => ds
  | _ => []

/-- the dependency look-up a directive makes outside the final pass: `none` = the look-up fails,
    `some none` = no dependency here, `some (some s')` = recorded, the pass collects from now on -/
def collectDep (Wd : World W) (s : PpState W) (d : Directive) : Option (Option (PpState W)) :=
  if s.pm = .exec then some none
  else if d.ty = .include || d.ty = .after then
    match Wd.depOf s.w (d.args.headD []) with
    | none => none
    | some (some dep) => some (some { s with pm := .collect (s.pm.deps ++ [dep]) })
    | some none => some none
  else some none

/-- what an executing pass does with a directive that is not a dependency -/
def execBody (Wd : World W) (le : Str) (s : PpState W) (d : Directive) : Option (PpState W × Option Str) :=
  match d.ty with
  | .empty | .after => some (s, none)
  | .run =>
    (match Wd.run s.w (joinWith [' '] d.args) with
     | (none, _) => none
     | (some out, w') => some (routeOutput le { s with w := w' } d.ws out))
  | .include =>
    (match Wd.readInclude s.w (d.args.headD []) with
     | none => none
     | some c => some (routeOutput le s d.ws c))
  | .temp =>
    (match execTemp Wd le s.w d.args false with
     | none => none
     | some w' => some ({ s with w := w' }, none))
  | .tag =>
    (match s.tags.create (d.args.headD []) with
     | none => none
     | some t' => some ({ s with tags := t' }, none))
  | .write => some (routeOutput le s d.ws (joinWith ['\n'] d.args))

theorem execDirective_clean (Wd : World W) (le : Str) (s : PpState W) (d : Directive) :
    execDirective Wd .clean le s d =
      some (if d.ty = .temp then { s with w := (execTemp Wd le s.w d.args true).getD s.w } else s, none) := by
  unfold execDirective
  rw [if_pos rfl]
  cases d.ty with
  | temp => dsimp only; rw [if_pos rfl]; cases execTemp Wd le s.w d.args true <;> rfl
  | _ => rfl

theorem execDirective_eq (Wd : World W) (mode : Mode) (hm : mode ≠ .clean) (le : Str) (s : PpState W) (d : Directive) :
    execDirective Wd mode le s d =
      match collectDep Wd s d with
      | none => none
      | some (some s') => some (s', none)
      | some none => if s.pm.isExecute then execBody Wd le s d else some (s, none) := by
  unfold execDirective collectDep execBody
  rw [if_neg hm]
  obtain ⟨tags, pm, w⟩ := s
  cases pm <;> rfl

/-- the look-up consults the world through `depOf` only -/
theorem collectDep_eq (Wd : World W) (s : PpState W) (d : Directive) :
    collectDep Wd s d =
      if s.pm ≠ .exec ∧ (d.ty = .include ∨ d.ty = .after) then
        (Wd.depOf s.w (d.args.headD [])).map (Option.map fun dep => { s with pm := .collect (s.pm.deps ++ [dep]) })
      else some none := by
  unfold collectDep
  by_cases hx : s.pm = .exec
  · rw [if_pos hx, if_neg (fun h => h.1 hx)]
  · by_cases hia : d.ty = .include ∨ d.ty = .after
    · rw [if_neg hx, if_pos (by simpa using hia), if_pos ⟨hx, hia⟩]
      cases Wd.depOf s.w (d.args.headD []) with
      | none => rfl
      | some od => cases od <;> rfl
    · rw [if_neg hx, if_neg (by simpa using hia), if_neg (fun h => hia h.2)]

/-- a directive that can name no dependency is executed by every executing pass -/
theorem execDirective_noDep (Wd : World W) {mode : Mode} (hm : mode ≠ .clean) (le : Str) {s : PpState W}
    (hx : s.pm.isExecute = true) {d : Directive} (hd : d.ty ≠ .include ∧ d.ty ≠ .after) :
    execDirective Wd mode le s d = execBody Wd le s d := by
  rw [execDirective_eq Wd mode hm, collectDep_eq, if_neg fun h => h.2.elim hd.1 hd.2]
  dsimp only
  rw [if_pos hx]

/-- the final pass executes every directive -/
theorem execDirective_exec (Wd : World W) {mode : Mode} (hm : mode ≠ .clean) (le : Str) {s : PpState W} (hpm : s.pm = .exec)
    (d : Directive) : execDirective Wd mode le s d = execBody Wd le s d := by
  rw [execDirective_eq Wd mode hm, show collectDep Wd s d = some none by simp [collectDep, hpm]]
  dsimp only
  rw [if_pos (by rw [hpm]; rfl)]

theorem collectDep_some (Wd : World W) (s s' : PpState W) (d : Directive) (h : collectDep Wd s d = some (some s')) :
    ∃ dep, s.pm ≠ .exec ∧ (d.ty = .include ∨ d.ty = .after) ∧ Wd.depOf s.w (d.args.headD []) = some (some dep) ∧
      s' = { s with pm := .collect (s.pm.deps ++ [dep]) } := by
  rw [collectDep_eq] at h
  split at h
  · rename_i hc
    obtain ⟨od, hdep, h⟩ := Option.map_eq_some_iff.1 h
    obtain ⟨dep, rfl, rfl⟩ := Option.map_eq_some_iff.1 h
    exact ⟨dep, hc.1, hc.2, hdep, rfl⟩
  · cases h

theorem execTemp_cons (Wd : World W) (le : Str) (w : W) (t : Str) (body : List Str) (c : Bool) :
    execTemp Wd le w (t :: body) c =
      if isTxtppPath t then none else if c then Wd.removeTemp w t else Wd.writeTemp w t (joinWith le body) := rfl

/-- cleaning a `temp` block: the target is removed, a failing removal is ignored -/
theorem execDirective_clean_temp (Wd : World W) (le : Str) (s : PpState W) (d : Directive) {t : Str} {body : List Str}
    (hty : d.ty = .temp) (hargs : d.args = t :: body) (hn : isTxtppPath t = false) :
    execDirective Wd .clean le s d = some ({ s with w := (Wd.removeTemp s.w t).getD s.w }, none) := by
  rw [execDirective_clean, if_pos hty, hargs, execTemp_cons, hn]; rfl

theorem execTemp_some (Wd : World W) (le : Str) (w w' : W) (args : List Str) (c : Bool)
    (h : execTemp Wd le w args c = some w') :
    ∃ t body, args = t :: body ∧ isTxtppPath t = false ∧
      (if c then Wd.removeTemp w t else Wd.writeTemp w t (joinWith le body)) = some w' := by
  unfold execTemp at h
  split at h
  · cases h
  · rename_i t body
    refine ⟨t, body, rfl, ?_⟩
    split at h
    · cases h
    · exact ⟨by simpa using ‹¬ isTxtppPath t = true›, h⟩

/-- the five ways a directive succeeds: nothing happens; a first pass records a dependency; the temp
    target is written (removed when cleaning); a tag starts listening; raw output (of a command, an
    included file, a `write` block) is routed to a tag or formatted -/
theorem execDirective_some (Wd : World W) (mode : Mode) (le : Str) (s s' : PpState W) (d : Directive) (o : Option Str)
    (h : execDirective Wd mode le s d = some (s', o)) :
    (s' = s ∧ o = none) ∨
    (∃ dep, mode ≠ .clean ∧ s.pm ≠ .exec ∧ (d.ty = .include ∨ d.ty = .after) ∧
      Wd.depOf s.w (d.args.headD []) = some (some dep) ∧ s' = { s with pm := .collect (s.pm.deps ++ [dep]) } ∧ o = none) ∨
    (∃ w', d.ty = .temp ∧ (mode = .clean ∨ s.pm.isExecute = true) ∧
      execTemp Wd le s.w d.args (decide (mode = .clean)) = some w' ∧ s' = { s with w := w' } ∧ o = none) ∨
    (∃ t', mode ≠ .clean ∧ s.pm.isExecute = true ∧ d.ty = .tag ∧ s.tags.create (d.args.headD []) = some t' ∧
      s' = { s with tags := t' } ∧ o = none) ∨
    (∃ raw w', mode ≠ .clean ∧ s.pm.isExecute = true ∧
      ((d.ty = .run ∧ Wd.run s.w (joinWith [' '] d.args) = (some raw, w')) ∨
       (d.ty = .include ∧ Wd.readInclude s.w (d.args.headD []) = some raw ∧ w' = s.w) ∨
       (d.ty = .write ∧ raw = joinWith ['\n'] d.args ∧ w' = s.w)) ∧
      s' = (routeOutput le { s with w := w' } d.ws raw).1 ∧ o = (routeOutput le { s with w := w' } d.ws raw).2) := by
  by_cases hm : mode = .clean
  · subst hm
    rw [execDirective_clean] at h
    by_cases hty : d.ty = .temp
    · rw [if_pos hty] at h
      cases ht : execTemp Wd le s.w d.args true with
      | none => rw [ht] at h; cases h; exact Or.inl ⟨rfl, rfl⟩
      | some w' => rw [ht] at h; cases h; exact Or.inr (Or.inr (Or.inl ⟨w', hty, Or.inl rfl, ht, rfl, rfl⟩))
    · rw [if_neg hty] at h; cases h; exact Or.inl ⟨rfl, rfl⟩
  · rw [execDirective_eq Wd mode hm] at h
    have hdec : decide (mode = .clean) = false := by simpa using hm
    split at h
    · cases h
    · rename_i s1 hc
      cases h
      obtain ⟨dep, h1, h2, h3, h4⟩ := collectDep_some Wd s s' d hc
      exact Or.inr (Or.inl ⟨dep, hm, h1, h2, h3, h4, rfl⟩)
    · split at h
      · rename_i hx
        unfold execBody at h
        split at h
        · cases h; exact Or.inl ⟨rfl, rfl⟩
        · cases h; exact Or.inl ⟨rfl, rfl⟩
        · rename_i hty
          split at h
          · cases h
          · rename_i out w' hr
            exact Or.inr (Or.inr (Or.inr (Or.inr ⟨out, w', hm, hx, Or.inl ⟨hty, hr⟩, (Prod.ext_iff.1 (Option.some.inj h).symm)⟩)))
        · rename_i hty
          split at h
          · cases h
          · rename_i c hr
            exact Or.inr (Or.inr (Or.inr (Or.inr ⟨c, s.w, hm, hx, Or.inr (Or.inl ⟨hty, hr, rfl⟩), (Prod.ext_iff.1 (Option.some.inj h).symm)⟩)))
        · rename_i hty
          split at h
          · cases h
          · rename_i w' ht
            cases h
            exact Or.inr (Or.inr (Or.inl ⟨w', hty, Or.inr hx, by rw [hdec]; exact ht, rfl, rfl⟩))
        · rename_i hty
          split at h
          · cases h
          · rename_i t' ht
            cases h
            exact Or.inr (Or.inr (Or.inr (Or.inl ⟨t', hm, hx, hty, ht, rfl, rfl⟩)))
        · rename_i hty
          exact Or.inr (Or.inr (Or.inr (Or.inr ⟨_, s.w, hm, hx, Or.inr (Or.inr ⟨hty, rfl, rfl⟩), (Prod.ext_iff.1 (Option.some.inj h).symm)⟩)))
      · cases h; exact Or.inl ⟨rfl, rfl⟩

theorem routeOutput_w (le : Str) (s : PpState W) (ws raw : Str) : (routeOutput le s ws raw).1.w = s.w := by
  unfold routeOutput; split <;> rfl

theorem routeOutput_pm (le : Str) (s : PpState W) (ws raw : Str) : (routeOutput le s ws raw).1.pm = s.pm := by
  unfold routeOutput; split <;> rfl

/-- `ignore_err_if_cleaning`: clean mode reads a directive start it would have to reject as a text line -/
theorem detect_eq (Wd : World W) (mode : Mode) (le : Str) (l : Str) :
    (txtppSem Wd mode le).detect l = (detectFrom l).filter fun d => !(mode = .clean && badStart d) := by
  dsimp only [txtppSem]
  cases detectFrom l with
  | none => rfl
  | some d => cases hc : (decide (mode = .clean) && badStart d) <;> simp [Option.filter, hc]

theorem text_w (Wd : World W) (mode : Mode) (le : Str) (s : PpState W) (l : Str) :
    ((txtppSem Wd mode le).text s l).1.w = s.w := by
  dsimp only [txtppSem]; split <;> rfl

theorem text_pm (Wd : World W) (mode : Mode) (le : Str) (s : PpState W) (l : Str) :
    ((txtppSem Wd mode le).text s l).1.pm = s.pm := by
  dsimp only [txtppSem]; split <;> rfl

end Txt
