import Txtpp.Model.CoordScan
import Txtpp.Lemmas.CoordTop
/-! The coordinator with directory scans. `execDirs_eq`: `execute_directory` over a list in closed form. `SInv`: `Inv`
    plus the scan accounting (`stotal = sdone + |scans|`, scans and directories duplicate-free, every scan a known
    directory). Every step keeps it (`sstep_preserves`, `sreach_inv`); C03 reads the exit test off its two accounts. -/
namespace Coord

structure SInv (w : ScanWorld) (x : SSt) : Prop where
  inv : Inv w.toWorld x.st
  acct : x.stotal = x.sdone + x.scans.length
  scansND : x.scans.Nodup
  dirsND : x.dirs.Nodup
  scansDirs : ∀ d ∈ x.scans, d ∈ x.dirs

/-- `execute_directory` over a list is the start-once loop of a first-pass `execFiles`; a directory met
    again only counts as done -/
theorem execDirs_eq (x : SSt) (ds : List Dir) :
    execDirs x ds = { x with dirs := (fresh x.dirs ds).reverse ++ x.dirs, scans := x.scans ++ fresh x.dirs ds,
                             sdone := x.sdone + (ds.length - (fresh x.dirs ds).length) } := by
  induction ds generalizing x with
  | nil => simp [execDirs, fresh]
  | cons d ds ih =>
    show execDirs (execDir x d) ds = _
    rw [ih]
    by_cases hd : d ∈ x.dirs
    · have := length_fresh_le x.dirs ds
      simp [execDir, fresh, hd]; omega
    · simp [execDir, fresh, hd]

/-- handing `execute_directory` the directories that `stotal` already counts restores the accounts -/
theorem execDirs_sinv {w : ScanWorld} {x : SSt} (ds : List Dir) (hI : Inv w.toWorld x.st)
    (hacct : x.stotal = x.sdone + x.scans.length + ds.length)
    (hs : x.scans.Nodup) (hd : x.dirs.Nodup) (hsd : ∀ d ∈ x.scans, d ∈ x.dirs) : SInv w (execDirs x ds) := by
  rw [execDirs_eq]
  refine ⟨hI, ?_, ?_, fresh_reverse_append_nodup ds hd, fun d hd' => ?_⟩
  · have := length_fresh_le x.dirs ds
    show x.stotal = x.sdone + _ + (x.scans ++ _).length
    rw [List.length_append]; omega
  · exact List.nodup_append.2 ⟨hs, fresh_nodup, fun a ha b hb e => (mem_fresh.1 hb).2 (e ▸ hsd a ha)⟩
  · show d ∈ _ ++ x.dirs
    rcases List.mem_append.1 hd' with h | h
    · exact List.mem_append_right _ (hsd d h)
    · exact List.mem_append_left _ (List.mem_reverse.2 h)

theorem sstep_preserves {w : ScanWorld} {x x' : SSt} (hI : SInv w x) (h : SStep w x x') : SInv w x' := by
  cases h with
  | scan _ d hd hs =>
    unfold handleScan at hs
    split at hs
    · cases hs
    · cases hs
      refine execDirs_sinv _ (inject_preserves _ hI.inv) ?_ (hI.scansND.erase d) hI.dirsND
        fun e he => hI.scansDirs e (List.mem_of_mem_erase he)
      have := hI.acct
      have := List.length_erase_of_mem hd
      have := List.length_pos_of_mem hd
      show x.stotal + _ = x.sdone + 1 + (x.scans.erase d).length + _
      omega
  | pp s' t ht hc =>
    exact ⟨step_preserves hI.inv (Step.deliver x.st s' t ht hc), hI.acct, hI.scansND, hI.dirsND,
      hI.scansDirs⟩

theorem sreach_inv (w : ScanWorld) (files : List File) (ds : List Dir) (x : SSt) (h : SReach w files ds x) : SInv w x := by
  induction h with
  | init => exact execDirs_sinv ds (inv_init w.toWorld files) (by simp) (by simp) (by simp) (by simp)
  | step x x' _ hs ih => exact sstep_preserves ih hs

end Coord
