import Txtpp.Lemmas.CoordExec
import Txtpp.Lemmas.CoordDm
/-! The coordinator invariant `Inv` = the manager's invariant + how `seen` and the pool relate to the manager.
    It holds initially and is kept by scheduling further first passes at any time (what a finished directory
    scan does), by finishing a file, and by a first pass that reports dependencies. -/
namespace Coord

/-- The fields by group ("`f` waits" is `∃ d, f ∈ inE d`):
    * accounting: `acct`;
    * duplicate-free: `seenND`, `poolND`, `finND`, `inEND`; what has a task or is finished is seen: `poolSeen`, `finSeen`;
    * phases: a seen file has its first pass in the pool, its second pass in the pool, waits, or is finished (`cover`),
      and no two of these at once (`ex1`, `ex2`, `ex3`: what the first, the second, the third excludes of the later ones);
    * the manager: `edge` (who waits for what: a dependency, unfinished, both files seen), `count` (the counter of a
      waiting file is the number of in-edge lists it is in, so the `unwrap` of `notify_finish` succeeds), `waitDeps`,
      `finDeps`; with `finND` and `inEND` these are `DmInv` (`Inv.dm`);
    * `secondDeps`: a second pass is in flight only after the dependencies of its file have finished;
    * `cntP1`, `cntUnseen`: no counter while the first pass is in flight, nor for an unseen file, so the
      `or_insert(0)` of `add_dependency` starts from 0. -/
structure Inv (w : World) (s : St) : Prop where
  acct : s.total = s.done + s.pool.length
  seenND : s.seen.Nodup
  poolND : s.pool.Nodup
  finND : s.dm.fin.Nodup
  poolSeen : ∀ f b, Task.pp f b ∈ s.pool → f ∈ s.seen
  finSeen : ∀ f ∈ s.dm.fin, f ∈ s.seen
  cover : ∀ f ∈ s.seen, Task.pp f true ∈ s.pool ∨ Task.pp f false ∈ s.pool ∨ (∃ d, f ∈ s.dm.inE d) ∨ f ∈ s.dm.fin
  ex1 : ∀ f, Task.pp f true ∈ s.pool → Task.pp f false ∉ s.pool ∧ (∀ d, f ∉ s.dm.inE d) ∧ f ∉ s.dm.fin
  ex2 : ∀ f, Task.pp f false ∈ s.pool → (∀ d, f ∉ s.dm.inE d) ∧ f ∉ s.dm.fin
  ex3 : ∀ f d, f ∈ s.dm.inE d → f ∉ s.dm.fin
  edge : ∀ d a, a ∈ s.dm.inE d → d ∈ w.deps a ∧ d ∉ s.dm.fin ∧ d ∈ s.seen ∧ a ∈ s.seen
  inEND : ∀ d, (s.dm.inE d).Nodup
  count : ∀ a, (∃ d, a ∈ s.dm.inE d) →
    ∃ L : List File, L.Nodup ∧ s.dm.cnt a = some L.length ∧ ∀ d, d ∈ L ↔ a ∈ s.dm.inE d
  waitDeps : ∀ a, (∃ d, a ∈ s.dm.inE d) → ∀ d ∈ w.deps a, d ∈ s.dm.fin ∨ a ∈ s.dm.inE d
  secondDeps : ∀ a, Task.pp a false ∈ s.pool → ∀ d ∈ w.deps a, d ∈ s.dm.fin
  finDeps : ∀ a ∈ s.dm.fin, ∀ d ∈ w.deps a, d ∈ s.dm.fin
  cntP1 : ∀ a, Task.pp a true ∈ s.pool → s.dm.cnt a = none
  cntUnseen : ∀ a, a ∉ s.seen → s.dm.cnt a = none

theorem Inv.dm {w : World} {s : St} (hI : Inv w s) : DmInv w.deps s.dm :=
  ⟨hI.finND, fun d a h => ⟨(hI.edge d a h).1, (hI.edge d a h).2.1⟩, hI.inEND, hI.count, hI.waitDeps, hI.finDeps⟩

/-- What is left to show about a state whose manager satisfies `DmInv`. That a file with a task waits for nothing,
    and that a waiting file is seen, is not asked for: a waiting file has a counter, a file that is unseen or has
    its first pass in flight has none, and one with its second pass in flight has no unfinished dependency. -/
theorem Inv.of_dm {w : World} {s : St} (hm : DmInv w.deps s.dm)
    (acct : s.total = s.done + s.pool.length) (seenND : s.seen.Nodup) (poolND : s.pool.Nodup)
    (poolSeen : ∀ f b, Task.pp f b ∈ s.pool → f ∈ s.seen) (finSeen : ∀ f ∈ s.dm.fin, f ∈ s.seen)
    (cover : ∀ f ∈ s.seen, Task.pp f true ∈ s.pool ∨ Task.pp f false ∈ s.pool ∨ (∃ d, f ∈ s.dm.inE d) ∨ f ∈ s.dm.fin)
    (ex1 : ∀ f, Task.pp f true ∈ s.pool → Task.pp f false ∉ s.pool ∧ f ∉ s.dm.fin)
    (ex2 : ∀ f, Task.pp f false ∈ s.pool → f ∉ s.dm.fin)
    (targetSeen : ∀ d a, a ∈ s.dm.inE d → d ∈ s.seen)
    (secondDeps : ∀ a, Task.pp a false ∈ s.pool → ∀ d ∈ w.deps a, d ∈ s.dm.fin)
    (cntP1 : ∀ a, Task.pp a true ∈ s.pool → s.dm.cnt a = none)
    (cntUnseen : ∀ a, a ∉ s.seen → s.dm.cnt a = none) : Inv w s :=
  ⟨acct, seenND, poolND, hm.finND, poolSeen, finSeen, cover,
   fun f h => ⟨(ex1 f h).1, hm.idle_of_cnt (cntP1 f h), (ex1 f h).2⟩,
   fun f h => ⟨hm.idle_of_deps (secondDeps f h), ex2 f h⟩, hm.ex3,
   fun d a h => ⟨(hm.edge d a h).1, (hm.edge d a h).2, targetSeen d a h,
     Classical.byContradiction fun hn => hm.idle_of_cnt (cntUnseen a hn) d h⟩, hm.inEND, hm.count, hm.waitDeps,
   secondDeps, hm.finDeps, cntP1, cntUnseen⟩

theorem Inv.one_task {w : World} {s : St} (hI : Inv w s) {a : File} {b c : Bool}
    (hb : Task.pp a b ∈ s.pool) (hc : Task.pp a c ∈ s.pool) : b = c := by
  cases b <;> cases c
  · rfl
  · exact absurd hb (hI.ex1 a hc).1
  · exact absurd hc (hI.ex1 a hb).1
  · rfl

theorem Inv.task_unfinished {w : World} {s : St} (hI : Inv w s) {a : File} {b : Bool} (ht : Task.pp a b ∈ s.pool) :
    a ∉ s.dm.fin := by
  cases b
  · exact (hI.ex2 a ht).2
  · exact (hI.ex1 a ht).2.2

theorem Inv.deps_fin_of_final {w : World} {s : St} (hI : Inv w s) {a : File} {first : Bool} (ht : Task.pp a first ∈ s.pool)
    (hd : first = true → w.deps a = []) : ∀ d ∈ w.deps a, d ∈ s.dm.fin := by
  cases first
  · exact hI.secondDeps a ht
  · rw [hd rfl]; exact fun _ h => nomatch h

theorem acct_erase {s : St} {t : Task} (ht : t ∈ s.pool) (h : s.total = s.done + s.pool.length) :
    s.total = s.done + 1 + (s.pool.erase t).length := by
  have := List.length_erase_of_mem ht; have := List.length_pos_of_mem ht; omega

theorem inject_preserves {w : World} {s : St} (fs : List File) (hI : Inv w s) : Inv w (execFiles s fs true) := by
  have hdm : (execFiles s fs true).dm = s.dm := execFiles_dm _ _ _
  have hseen : ∀ x, x ∈ s.seen → x ∈ (execFiles s fs true).seen := fun x h => mem_execFiles_seen.2 (Or.inl h)
  have hold : ∀ t, t ∈ s.pool → t ∈ (execFiles s fs true).pool := fun t h => mem_execFiles_pool.2 (Or.inl h)
  -- a new task is the first pass of a file that was unseen, hence unknown to pool and manager
  have hnew : ∀ t, t ∈ (execFiles s fs true).pool → t ∈ s.pool ∨ ∃ f ∈ fs, f ∉ s.seen ∧ t = Task.pp f true :=
    fun t ht => (mem_execFiles_pool.1 ht).imp id fun ⟨f, hf, hs, e⟩ => ⟨f, hf, hs rfl, e⟩
  have hsecond : ∀ f, Task.pp f false ∈ (execFiles s fs true).pool → Task.pp f false ∈ s.pool :=
    fun f h => (hnew _ h).elim id fun ⟨g, _, _, e⟩ => nomatch e
  apply Inv.of_dm (hdm ▸ hI.dm) (execFiles_acct hI.acct) (execFiles_seen_nodup hI.seenND)
  case poolND => exact execFiles_pool_nodup hI.poolND fresh_nodup fun f hf h => (mem_fresh.1 hf).2 (hI.poolSeen f true h)
  case poolSeen =>
    intro f b h
    rcases hnew _ h with h | ⟨g, hg, _, e⟩
    · exact hseen f (hI.poolSeen f b h)
    · cases e; exact mem_execFiles_seen.2 (Or.inr ⟨rfl, hg⟩)
  case finSeen => intro f hf; rw [hdm] at hf; exact hseen f (hI.finSeen f hf)
  case cover =>
    intro f hf; rw [hdm]
    by_cases hs : f ∈ s.seen
    · exact (hI.cover f hs).imp (hold _) (Or.imp (hold _) id)
    · exact Or.inl (mem_execFiles_pool.2 (Or.inr ⟨f, ((mem_execFiles_seen.1 hf).resolve_left hs).2, fun _ => hs, rfl⟩))
  case ex1 =>
    intro f hf; rw [hdm]
    rcases hnew _ hf with h | ⟨g, _, hg, e⟩
    · exact ⟨fun h2 => (hI.ex1 f h).1 (hsecond f h2), (hI.ex1 f h).2.2⟩
    · cases e
      exact ⟨fun h2 => hg (hI.poolSeen f false (hsecond f h2)), fun h => hg (hI.finSeen f h)⟩
  case ex2 => intro f hf; rw [hdm]; exact (hI.ex2 f (hsecond f hf)).2
  case targetSeen => intro d a h; rw [hdm] at h; exact hseen d (hI.edge d a h).2.2.1
  case secondDeps => intro a h; rw [hdm]; exact hI.secondDeps a (hsecond a h)
  case cntP1 =>
    intro a h; rw [hdm]
    rcases hnew _ h with h' | ⟨g, _, hg, e⟩
    · exact hI.cntP1 a h'
    · cases e; exact hI.cntUnseen a hg
  case cntUnseen => intro a h; rw [hdm]; exact hI.cntUnseen a fun hs => h (hseen a hs)

theorem inv_init (w : World) (inputs : List File) : Inv w (init inputs) :=
  inject_preserves inputs (by constructor <;> simp)

theorem finish_preserves {w : World} {s : St} {a : File} {first : Bool} (hI : Inv w s)
    (ht : Task.pp a first ∈ s.pool) (hdeps : ∀ d ∈ w.deps a, d ∈ s.dm.fin) :
    ∃ s', handle { s with pool := s.pool.erase (.pp a first) } (.ok a) = .cont s' ∧ Inv w s' := by
  -- `rel`: the files that waited for `a` and for nothing else (`hrel`). The pool afterwards is the pool without the
  -- task of `a`, plus the second passes of `rel` (`hpoolmem`); every clause splits over these two kinds of member.
  have haF := hI.task_unfinished ht
  have hOnly : ∀ b, Task.pp a b ∈ s.pool → Task.pp a b = .pp a first := fun b hb => by rw [hI.one_task hb ht]
  have hne : ∀ f b, f ≠ a → Task.pp f b ≠ .pp a first := fun f b hfa e => hfa (by cases e; rfl)
  obtain ⟨m', rel, hnf, hm', hfin', hinE, hrelND, hrel, hc1⟩ := hI.dm.notifyFinish a haF hdeps
  have hfin : ∀ x, x ∈ m'.fin ↔ x = a ∨ x ∈ s.dm.fin := by intro x; rw [hfin', List.mem_cons]
  refine ⟨_, handle_ok hnf, ?_⟩
  generalize hs' : execFiles _ rel false = s'
  have e1 : s'.seen = s.seen := by rw [← hs', execFiles_seen_false]
  have hdm : s'.dm = m' := by rw [← hs', execFiles_dm]
  have hpoolmem : ∀ u, u ∈ s'.pool ↔ (u ≠ .pp a first ∧ u ∈ s.pool) ∨ ∃ f ∈ rel, u = Task.pp f false := by
    intro u; rw [← hs', mem_execFiles_pool, hI.poolND.mem_erase_iff]; simp
  apply Inv.of_dm (hdm ▸ hm')
  case acct => rw [← hs']; exact execFiles_acct (acct_erase ht hI.acct)
  case seenND => rw [e1]; exact hI.seenND
  case poolND =>
    rw [← hs']
    exact execFiles_pool_nodup (hI.poolND.erase _) hrelND fun f hf hm =>
      (hI.ex2 f (List.mem_of_mem_erase hm)).1 a ((hrel f).1 hf).1
  case poolSeen =>
    intro f b hm; rw [e1]; rw [hpoolmem] at hm
    rcases hm with ⟨_, hm⟩ | ⟨g, hg, he⟩
    · exact hI.poolSeen f b hm
    · cases he; exact (hI.edge a f ((hrel f).1 hg).1).2.2.2
  case finSeen =>
    intro f hf; rw [hdm, hfin] at hf; rw [e1]
    rcases hf with rfl | hf
    · exact hI.poolSeen _ _ ht
    · exact hI.finSeen f hf
  case cover =>
    intro f hf; rw [e1] at hf; simp only [hpoolmem, hdm, hfin, hinE, hrel]
    by_cases hfa : f = a
    · exact Or.inr (Or.inr (Or.inr (Or.inl hfa)))
    · rcases hI.cover f hf with h | h | ⟨d, hd⟩ | h
      · exact Or.inl (Or.inl ⟨hne f true hfa, h⟩)
      · exact Or.inr (Or.inl (Or.inl ⟨hne f false hfa, h⟩))
      · -- `f` waits: for `a` alone, and its second pass starts; or also for another file, and it goes on waiting
        by_cases hr : ∀ d', f ∈ s.dm.inE d' → d' = a
        · exact Or.inr (Or.inl (Or.inr ⟨f, ⟨hr d hd ▸ hd, hr⟩, rfl⟩))
        · obtain ⟨d', h⟩ := Classical.not_forall.1 hr
          exact Or.inr (Or.inr (Or.inl ⟨d', (Classical.not_imp.1 h).2, (Classical.not_imp.1 h).1⟩))
      · exact Or.inr (Or.inr (Or.inr (Or.inr h)))
  case ex1 =>
    intro f hm; simp only [hpoolmem, hdm, hfin] at hm ⊢
    rcases hm with ⟨hnt, hm⟩ | ⟨g, _, he⟩
    · have hfa : f ≠ a := by rintro rfl; exact hnt (hOnly true hm)
      obtain ⟨x1, x2, x3⟩ := hI.ex1 f hm
      refine ⟨?_, fun h => h.elim hfa x3⟩
      rintro (⟨_, h⟩ | ⟨g, hg, he⟩)
      · exact x1 h
      · cases he; exact x2 a ((hrel f).1 hg).1
    · cases he
  case ex2 =>
    intro f hm; simp only [hpoolmem, hdm, hfin] at hm ⊢
    rcases hm with ⟨hnt, hm⟩ | ⟨g, hg, he⟩
    · exact fun h => h.elim (by rintro rfl; exact hnt (hOnly false hm)) (hI.ex2 f hm).2
    · cases he
      rintro (h | h)
      · subst h; exact hI.dm.idle_of_deps hdeps f ((hrel f).1 hg).1
      · exact hI.ex3 f a ((hrel f).1 hg).1 h
  case targetSeen => intro d x h; rw [hdm, hinE] at h; rw [e1]; exact (hI.edge d x h.2).2.2.1
  case secondDeps =>
    intro x hm d hd; simp only [hpoolmem, hdm, hfin] at hm ⊢
    rcases hm with ⟨_, hm⟩ | ⟨g, hg, he⟩
    · exact Or.inr (hI.secondDeps x hm d hd)
    · cases he
      obtain ⟨hxa, honly⟩ := (hrel x).1 hg
      exact (hI.waitDeps x ⟨a, hxa⟩ d hd).symm.imp (honly d) id
  case cntP1 =>
    intro x hm; simp only [hpoolmem] at hm; rw [hdm]
    rcases hm with ⟨_, hm⟩ | ⟨g, _, he⟩
    · rw [hc1 x ((hI.ex1 x hm).2.1 a)]; exact hI.cntP1 x hm
    · cases he
  case cntUnseen =>
    intro x hx; rw [e1] at hx; rw [hdm]
    rw [hc1 x (fun h => hx (hI.edge a x h).2.2.2)]; exact hI.cntUnseen x hx

/-! A first pass that reports dependencies is read as two steps: the dependencies are scheduled
    (`inject_preserves`, with the first pass of the file still in the pool), then the file starts to wait for
    them, or, if all are finished already, its second pass starts. The order matters: the other way round the
    manager would hold edges to files not yet seen. -/

theorem execFiles_erase {s : St} (fs : List File) (b : Bool) {t : Task} (ht : t ∈ s.pool) (m : DepMgr) :
    execFiles { s with pool := s.pool.erase t, done := s.done + 1, dm := m } fs b =
      { execFiles s fs b with pool := (execFiles s fs b).pool.erase t, done := (execFiles s fs b).done + 1, dm := m } := by
  simp only [execFiles_eq, List.erase_append_left _ ht]

theorem wait_preserves {w : World} {s : St} {a : File} (hI : Inv w s) (ht : Task.pp a true ∈ s.pool)
    (hne : w.deps a ≠ []) {m' : DepMgr} {added : Bool} (hadd : addDependency s.dm a (w.deps a) = (m', added))
    (hseen : added = true → ∀ d ∈ w.deps a, d ∈ s.seen) :
    Inv w (execFiles { s with pool := s.pool.erase (Task.pp a true), done := s.done + 1, dm := m' }
      (if added then [] else [a]) false) := by
  obtain ⟨hnoSecond, _, haF⟩ := hI.ex1 a ht
  have haS : a ∈ s.seen := hI.poolSeen _ _ ht
  obtain ⟨hm', hfin, hinE, hcnt, hunfin, hallfin⟩ := hI.dm.addDependency a (hI.cntP1 a ht) hne hadd
  generalize hs' : execFiles _ _ false = s'
  have hdm : s'.dm = m' := by rw [← hs', execFiles_dm]
  have hseen' : s'.seen = s.seen := by rw [← hs', execFiles_seen_false]
  have hpool : ∀ u, u ∈ s'.pool ↔ (u ≠ Task.pp a true ∧ u ∈ s.pool) ∨ (added = false ∧ u = Task.pp a false) := by
    intro u; rw [← hs', mem_execFiles_pool, hI.poolND.mem_erase_iff]; cases added <;> simp
  apply Inv.of_dm (hdm ▸ hm')
  case acct => rw [← hs']; exact execFiles_acct (acct_erase ht hI.acct)
  case seenND => rw [hseen']; exact hI.seenND
  case poolND =>
    rw [← hs']
    refine execFiles_pool_nodup (hI.poolND.erase _) (by cases added <;> simp [started]) fun f hf h => ?_
    cases added
    · cases List.mem_singleton.1 hf; exact hnoSecond (List.mem_of_mem_erase h)
    · cases hf
  case poolSeen =>
    intro f b hm; rw [hseen']
    rcases (hpool _).1 hm with ⟨_, h⟩ | ⟨_, e⟩
    · exact hI.poolSeen f b h
    · cases e; exact haS
  case finSeen => rw [hdm, hfin, hseen']; exact hI.finSeen
  case cover =>
    intro f hf; rw [hseen'] at hf; simp only [hpool, hdm, hinE, hfin]
    by_cases hfa : f = a
    · subst hfa
      cases added
      · exact Or.inr (Or.inl (Or.inr ⟨rfl, rfl⟩))
      · obtain ⟨d, hd, hdf⟩ := hunfin rfl
        exact Or.inr (Or.inr (Or.inl ⟨d, Or.inl ⟨rfl, hd, hdf⟩⟩))
    · rcases hI.cover f hf with h | h | ⟨d, hd⟩ | h
      · exact Or.inl (Or.inl ⟨by simpa using hfa, h⟩)
      · exact Or.inr (Or.inl (Or.inl ⟨by simp, h⟩))
      · exact Or.inr (Or.inr (Or.inl ⟨d, Or.inr hd⟩))
      · exact Or.inr (Or.inr (Or.inr h))
  case ex1 =>
    intro f hm; simp only [hpool, hdm, hfin] at hm ⊢
    rcases hm with ⟨hne', hm⟩ | ⟨_, e⟩
    · refine ⟨?_, (hI.ex1 f hm).2.2⟩
      rintro (⟨_, h⟩ | ⟨_, e⟩)
      · exact (hI.ex1 f hm).1 h
      · cases e; exact hne' rfl
    · cases e
  case ex2 =>
    intro f hm; rw [hdm, hfin]
    rcases (hpool _).1 hm with ⟨_, hm⟩ | ⟨_, e⟩
    · exact (hI.ex2 f hm).2
    · cases e; exact haF
  case targetSeen =>
    intro d x h; rw [hdm, hinE] at h; rw [hseen']
    rcases h with ⟨rfl, hd, hdf⟩ | h
    · cases added
      · exact absurd (hallfin rfl d hd) hdf
      · exact hseen rfl d hd
    · exact (hI.edge d x h).2.2.1
  case secondDeps =>
    intro x hm d hd; rw [hdm, hfin]
    rcases (hpool _).1 hm with ⟨_, hm⟩ | ⟨hadd', e⟩
    · exact hI.secondDeps x hm d hd
    · cases e; exact hallfin hadd' d hd
  case cntP1 =>
    intro x hm; rw [hdm]
    rcases (hpool _).1 hm with ⟨hne', hm⟩ | ⟨_, e⟩
    · rw [hcnt x (by rintro rfl; exact hne' rfl)]; exact hI.cntP1 x hm
    · cases e
  case cntUnseen => intro x hx; rw [hseen'] at hx; rw [hdm, hcnt x (by rintro rfl; exact hx haS)]; exact hI.cntUnseen x hx

theorem hasDeps_preserves {w : World} {s : St} {a : File} (hI : Inv w s)
    (ht : Task.pp a true ∈ s.pool) (hne : w.deps a ≠ []) :
    ∃ s', handle { s with pool := s.pool.erase (Task.pp a true) } (.hasDeps a (w.deps a)) = .cont s' ∧ Inv w s' := by
  cases hadd : addDependency s.dm a (w.deps a) with
  | mk m' added =>
    refine ⟨_, handle_hasDeps hadd, ?_⟩
    cases added with
    | true =>
      have h := wait_preserves (inject_preserves (w.deps a) hI) (mem_execFiles_pool.2 (Or.inl ht)) hne
        (m' := m') (added := true) (by rw [execFiles_dm]; exact hadd) fun _ d hd => mem_execFiles_seen.2 (Or.inr ⟨rfl, hd⟩)
      rw [if_pos rfl, execFiles_nil, ← execFiles_erase _ _ ht] at h
      exact h
    | false => exact wait_preserves hI ht hne hadd nofun

end Coord
