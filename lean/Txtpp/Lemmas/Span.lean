/-! `takeWhile p` / `dropWhile p` is the one split of a list into a prefix of letters satisfying `p` and a rest
    that does not begin with such a letter; for `p = (· != x)` it is the split at the first `x`. Cutting at every `x`
    gives an induction principle (`split_ind`). `not_mem_of_dropLast` is a plain list fact that `ByteLines` needs. -/
namespace List
variable {α : Type}

theorem span_iff (p : α → Bool) (l a b : List α) :
    (l.takeWhile p = a ∧ l.dropWhile p = b) ↔
      l = a ++ b ∧ (∀ x ∈ a, p x = true) ∧ ∀ c, b.head? = some c → p c = false := by
  constructor
  · rintro ⟨rfl, rfl⟩
    refine ⟨takeWhile_append_dropWhile.symm, fun x hx => all_eq_true.1 all_takeWhile x hx, fun c hc => ?_⟩
    have := head?_dropWhile_not p l
    rwa [hc] at this
  · rintro ⟨rfl, ha, hb⟩
    have hb' : b.takeWhile p = [] ∧ b.dropWhile p = b := by
      cases b with
      | nil => exact ⟨rfl, rfl⟩
      | cons c cs => simp [hb c rfl]
    rw [takeWhile_append_of_pos ha, dropWhile_append_of_pos ha, hb'.1, hb'.2, append_nil]
    exact ⟨rfl, rfl⟩

theorem span_ne_iff [DecidableEq α] (x : α) (l a b : List α) :
    (l.takeWhile (· != x) = a ∧ l.dropWhile (· != x) = x :: b) ↔ l = a ++ x :: b ∧ x ∉ a := by
  rw [span_iff]
  simp only [bne_iff_ne, ne_eq, head?_cons, Option.some.injEq, bne_eq_false_iff_eq, forall_eq', and_true]
  exact and_congr_right fun _ => ⟨fun h hx => h x hx rfl, fun h y hy e => h (e ▸ hy)⟩

theorem dropWhile_ne_eq_nil [DecidableEq α] (x : α) (l : List α) : l.dropWhile (· != x) = [] ↔ x ∉ l := by
  induction l with
  | nil => simp
  | cons c cs ih =>
    by_cases h : c = x
    · simp [h]
    · rw [dropWhile_cons_of_pos (by simpa using h), ih, mem_cons, not_or]
      exact ⟨fun h' => ⟨fun e => h e.symm, h'⟩, And.right⟩

theorem dropWhile_ne_cons [DecidableEq α] {x c : α} {l t : List α} (h : l.dropWhile (· != x) = c :: t) : c = x := by
  have := head?_dropWhile_not (· != x) l
  rw [h] at this; simpa using this

/-- every list is a piece without `x`, or such a piece, then `x`, then a rest -/
theorem split_ind [DecidableEq α] (x : α) {P : List α → Prop} (last : ∀ a, x ∉ a → P a)
    (piece : ∀ a r, x ∉ a → P r → P (a ++ x :: r)) (l : List α) : P l := by
  suffices ∀ a, x ∉ a → P (a ++ l) from this [] not_mem_nil
  induction l with
  | nil => intro a ha; rw [append_nil]; exact last a ha
  | cons c l ih =>
    intro a ha
    by_cases hc : c = x
    · subst hc; exact piece a l ha (ih [] not_mem_nil)
    · rw [append_cons]; exact ih (a ++ [c]) (by simp [ha, Ne.symm hc])

theorem not_mem_of_dropLast {a : α} {x : List α} (h1 : a ∉ x.dropLast) (h2 : x.getLast? ≠ some a) : a ∉ x := by
  intro hm
  cases hl : x.getLast? with
  | none => rw [getLast?_eq_none_iff.1 hl] at hm; cases hm
  | some b =>
    obtain ⟨ys, rfl⟩ := getLast?_eq_some_iff.1 hl
    rw [dropLast_concat] at h1
    rw [mem_append, mem_singleton] at hm
    exact hm.elim h1 fun e => h2 (e ▸ hl)

end List
