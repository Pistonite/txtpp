import Txtpp.Lemmas.RunPassFacts
/-! The pass mode. Once a first pass has met a dependency (`PpMode::CollectDeps`) it executes nothing, writes nothing and
    never leaves that mode: commands after an `after X` / `include X` line run only in the second pass (C02). A pass
    reports dependencies only as a first pass, and then at least one. -/
namespace Txt
variable {W : Type}

/-- the complement of `PpMode.isExecute` (`isExecute_eq_not_isCollect`) -/
def isCollect : PpMode → Bool
  | .collect _ => true
  | _ => false

theorem isExecute_eq_not_isCollect (pm : PpMode) : pm.isExecute = !isCollect pm := by cases pm <;> rfl

theorem execDirective_collect (Wd : World W) (mode : Mode) (hm : mode ≠ .clean) (le : Str) (s s' : PpState W)
    (d : Directive) (o : Option Str) (hc : isCollect s.pm = true)
    (h : execDirective Wd mode le s d = some (s', o)) :
    s'.w = s.w ∧ s'.tags = s.tags ∧ o = none ∧ isCollect s'.pm = true := by
  have hx : ¬ s.pm.isExecute = true := by simp [isExecute_eq_not_isCollect, hc]
  rcases execDirective_some Wd mode le s s' d o h with ⟨rfl, rfl⟩ | ⟨_, _, _, _, _, rfl, rfl⟩ | ⟨_, _, hx', _, _, _⟩ |
    ⟨_, _, hx', _⟩ | ⟨_, _, _, hx', _⟩
  · exact ⟨rfl, rfl, rfl, hc⟩
  · exact ⟨rfl, rfl, rfl, rfl⟩
  · exact absurd (hx'.resolve_left hm) hx
  · exact absurd hx' hx
  · exact absurd hx' hx

/-- one step of the invariant "while the pass collects, the world is `w0`" -/
theorem collect_freezes_world (Wd : World W) (mode : Mode) (hm : mode ≠ .clean) (le : Str) (w0 : W)
    (s s' : PpState W) (d : Directive) (o : Option Str)
    (hJ : isCollect s.pm = true → s.w = w0)
    (h : execDirective Wd mode le s d = some (s', o)) (hc : isCollect s.pm = true) :
    s'.w = w0 ∧ isCollect s'.pm = true := by
  obtain ⟨a, _, _, b⟩ := execDirective_collect Wd mode hm le s s' d o hc h
  exact ⟨by rw [a]; exact hJ hc, b⟩

theorem text_collect (Wd : World W) (mode : Mode) (le : Str) (s : PpState W) (l : Str) (hc : isCollect s.pm = true) :
    (txtppSem Wd mode le).text s l = (s, none) := by
  simp [txtppSem, isExecute_eq_not_isCollect, hc]

theorem execDirective_pm (Wd : World W) (mode : Mode) (le : Str) (s s' : PpState W) (d : Directive) (o : Option Str)
    (h : execDirective Wd mode le s d = some (s', o)) :
    s'.pm = s.pm ∨ (s.pm ≠ .exec ∧ ∃ deps, s'.pm = .collect deps ∧ deps ≠ []) := by
  rcases execDirective_some Wd mode le s s' d o h with ⟨rfl, _⟩ | ⟨_, _, hex, _, _, rfl, _⟩ | ⟨_, _, _, _, rfl, _⟩ |
    ⟨_, _, _, _, _, rfl, _⟩ | ⟨raw, w', _, _, _, rfl, _⟩
  · exact Or.inl rfl
  · exact Or.inr ⟨hex, _, rfl, by simp⟩
  · exact Or.inl rfl
  · exact Or.inl rfl
  · exact Or.inl (routeOutput_pm ..)

theorem ppPass_hasDeps {Wd : World W} {mode : Mode} {le : Str} {first trailing : Bool} {w : W} {lines : List Str} {readOk : Bool}
    {deps : List Str} {w' : W} (h : ppPass Wd mode le first trailing w lines readOk = .hasDeps deps w') :
    first = true ∧ deps ≠ [] := by
  obtain ⟨s, out, hm, hp, _⟩ := ppPass_hasDeps_inv h
  have hJ := Refine.machine_inv (txtppSem Wd mode le)
    (fun s => (first = false → s.pm = .exec) ∧ (∀ ds, s.pm = .collect ds → ds ≠ [])) trailing _ lines s out
    (fun _ d _ _ _ s s' o hj he => by
      rcases execDirective_pm Wd mode le s s' d o he with h1 | ⟨h1, ds, h2, h3⟩
      · rw [h1]; exact hj
      · exact ⟨fun hf => absurd (hj.1 hf) h1, fun ds' hds' => by rw [h2] at hds'; cases hds'; exact h3⟩)
    (fun s l hj => by rw [text_pm]; exact hj)
    (by cases first <;> simp) hm
  refine ⟨?_, hJ.2 deps hp⟩
  cases first with
  | true => rfl
  | false => have := hJ.1 rfl; rw [hp] at this; cases this

theorem runPass_hasDeps (cfg : Cfg) (fs : FS) (src : Path) (first : Bool) (deps : List Str)
    (h : (runPass cfg fs src first).1 = .hasDeps deps) : first = true ∧ deps ≠ [] := by
  rcases runPass_cases cfg fs src first with e | ⟨content, o, fs1, _, _, _, e⟩ <;> rw [e] at h
  · cases h
  · obtain ⟨fs2, hp⟩ := closePass_hasDeps h
    exact ppPass_hasDeps hp

end Txt
