import Txtpp.Model.Text
import Txtpp.Lemmas.Span
/-! What `str::find` and `str::split_once(' ')` compute, and with them C15's first sentence: `detect_from`
    accepts exactly the lines of the directive grammar. -/
namespace Txt

theorem findSub_cons (pat : Str) (c : Char) (cs : Str) : findSub pat (c :: cs) =
    if pat.isPrefixOf (c :: cs) then some ([], c :: cs) else (findSub pat cs).map fun r => (c :: r.1, r.2) := by
  rw [findSub]; cases findSub pat cs <;> rfl

/-- `str::find` returns the split at an occurrence with no occurrence before it, and `None` only if there is none -/
theorem findSub_spec (pat s : Str) :
    match findSub pat s with
    | some (a, b) => s = a ++ b ∧ pat <+: b ∧ ∀ j, j < a.length → ¬ pat <+: s.drop j
    | none => ∀ j, j ≤ s.length → ¬ pat <+: s.drop j := by
  induction s with
  | nil =>
    rw [findSub]
    by_cases hp : pat.isPrefixOf [] = true
    · rw [if_pos hp]; exact ⟨rfl, List.isPrefixOf_iff_prefix.1 hp, fun _ hj => nomatch hj⟩
    · rw [if_neg hp]; exact fun j _ h => hp (List.isPrefixOf_iff_prefix.2 (by simpa using h))
  | cons c cs ih =>
    rw [findSub_cons]
    by_cases hp : pat.isPrefixOf (c :: cs) = true
    · rw [if_pos hp]; exact ⟨rfl, List.isPrefixOf_iff_prefix.1 hp, fun _ hj => nomatch hj⟩
    · rw [if_neg hp]
      have h0 : ¬ pat <+: c :: cs := fun h => hp (List.isPrefixOf_iff_prefix.2 h)
      cases hf : findSub pat cs with
      | none =>
        rw [hf] at ih
        exact fun j hj => match j with
          | 0 => h0
          | j + 1 => ih j (Nat.le_of_succ_le_succ hj)
      | some r =>
        rw [hf] at ih
        exact ⟨congrArg (c :: ·) ih.1, ih.2.1, fun j hj => match j with
          | 0 => h0
          | j + 1 => ih.2.2 j (Nat.lt_of_succ_lt_succ hj)⟩

theorem findSub_iff {pat s a b : Str} :
    findSub pat s = some (a, b) ↔ s = a ++ b ∧ pat <+: b ∧ ∀ j, j < a.length → ¬ pat <+: s.drop j := by
  have spec := findSub_spec pat s
  refine ⟨fun h => by rw [h] at spec; exact spec, fun ⟨h1, h2, h3⟩ => ?_⟩
  have hb : pat <+: s.drop a.length := by rw [h1, List.drop_left]; exact h2
  cases hf : findSub pat s with
  | none => rw [hf] at spec; exact absurd hb (spec _ (by rw [h1, List.length_append]; exact Nat.le_add_right _ _))
  | some r =>
    rw [hf] at spec
    obtain ⟨g1, g2, g3⟩ := spec
    -- two first occurrences begin at the same place
    have hlen : a.length = r.1.length :=
      Nat.le_antisymm (Nat.le_of_not_lt fun hlt => h3 _ hlt (by rw [g1, List.drop_left]; exact g2))
        (Nat.le_of_not_lt fun hlt => g3 _ hlt hb)
    obtain ⟨rfl, rfl⟩ := List.append_inj (h1.symm.trans g1) hlen
    rfl

theorem findSub_none (pat s : Str) (h : findSub pat s = none) : ∀ j, j ≤ s.length → ¬ pat <+: s.drop j := by
  have := findSub_spec pat s
  rwa [h] at this

theorem splitOnceSpace_eq (s : Str) : splitOnceSpace s =
    match s.dropWhile (· != ' ') with
    | [] => none
    | _ :: b => some (s.takeWhile (· != ' '), b) := by
  induction s with
  | nil => rfl
  | cons c cs ih =>
    by_cases h : c = ' '
    · simp [splitOnceSpace, h]
    · simp only [splitOnceSpace, h, if_false, ih, List.takeWhile_cons, List.dropWhile_cons, bne_iff_ne, ne_eq,
        not_false_eq_true, if_true]
      cases cs.dropWhile (· != ' ') <;> rfl

theorem splitOnceSpace_iff {s a b : Str} : splitOnceSpace s = some (a, b) ↔ s = a ++ ' ' :: b ∧ ' ' ∉ a := by
  rw [← List.span_ne_iff, splitOnceSpace_eq]
  cases h : s.dropWhile (· != ' ') with
  | nil => simp
  | cons c r => simp [List.dropWhile_ne_cons h]

theorem splitOnceSpace_eq_none {s : Str} : splitOnceSpace s = none ↔ ' ' ∉ s := by
  rw [← List.dropWhile_ne_eq_nil, splitOnceSpace_eq]
  cases s.dropWhile (· != ' ') <;> simp

/-- C15, first sentence: `detect_from` accepts exactly the lines the grammar describes -/
theorem detectFrom_iff (line : Str) (d : Directive) : detectFrom line = some d ↔ IsDirectiveLine line d := by
  constructor
  · intro h
    obtain ⟨hline, hws, hhead⟩ := (List.span_iff isWs line _ _).1 ⟨rfl, rfl⟩
    unfold detectFrom at h
    cases hf : findSub hash (line.dropWhile isWs) with
    | none => simp only [hf] at h; cases h
    | some r =>
      obtain ⟨pre, fromHash⟩ := r
      obtain ⟨f1, ⟨after, rfl⟩, f3⟩ := findSub_iff.1 hf
      simp only [hf, List.drop_left] at h
      cases hs : splitOnceSpace after with
      | none =>
        simp only [hs, Option.map_eq_some_iff] at h
        obtain ⟨ty, hty, rfl⟩ := h
        exact ⟨_, after, after, hline, hws, hhead, by rw [f1, List.append_assoc], f3,
          .inl ⟨rfl, splitOnceSpace_eq_none.1 hs, rfl⟩, hty⟩
      | some na =>
        obtain ⟨n, a⟩ := na
        simp only [hs, Option.map_eq_some_iff] at h
        obtain ⟨ty, hty, rfl⟩ := h
        obtain ⟨s1, s2⟩ := splitOnceSpace_iff.1 hs
        exact ⟨_, after, n, hline, hws, hhead, by rw [f1, List.append_assoc], f3, .inr ⟨a, s1, s2, rfl⟩, hty⟩
  · rintro ⟨rest, after, name, rfl, hws, hhead, hrest, hmin, hname, hty⟩
    obtain ⟨tw, dw⟩ := (List.span_iff isWs _ d.ws rest).2 ⟨rfl, hws, hhead⟩
    have hf : findSub hash rest = some (d.pre, hash ++ after) :=
      findSub_iff.2 ⟨by rw [hrest, List.append_assoc], List.prefix_append _ _, hmin⟩
    unfold detectFrom
    simp only [tw, dw, hf, List.drop_left]
    rcases hname with ⟨rfl, hsp, hargs⟩ | ⟨r, rfl, hsp, hargs⟩
    · rw [splitOnceSpace_eq_none.2 hsp]
      simp only [hty, Option.map_some, ← hargs]
    · rw [splitOnceSpace_iff.2 ⟨rfl, hsp⟩]
      simp only [hty, Option.map_some, ← hargs]

#print axioms detectFrom_iff
end Txt
