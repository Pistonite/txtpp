import Txtpp.Lemmas.ByteLines
/-! C16, byte for byte: on a source made of lines without CR / LF, each followed by the same line ending,
    `BufRead::lines` and the decoding give back exactly those lines, the sniffed ending is that ending, and the
    text a pass emits for them encodes to the source. -/
namespace Txt

/-- a source made of the lines `lines`, each terminated by the same line ending -/
def srcBytes (crlf : Bool) (lines : List Str) : List UInt8 :=
  lines.flatMap (fun l => lineBytes l ++ (if crlf then [13, 10] else [10]))

def leOf (crlf : Bool) : Str := if crlf then ['\r', '\n'] else ['\n']

theorem lineBytes_le (crlf : Bool) : lineBytes (leOf crlf) = if crlf then [13, 10] else [10] := by
  cases crlf <;> rfl

theorem srcBytes_cons (crlf : Bool) (l : Str) (ls : List Str) :
    srcBytes crlf (l :: ls) = (lineBytes l ++ (if crlf then [13] else [])) ++ 10 :: srcBytes crlf ls := by
  cases crlf <;> simp [srcBytes]

theorem srcPiece (crlf : Bool) (l : Str) (hc : Clean l) :
    (10 : UInt8) ∉ lineBytes l ++ (if crlf then [13] else []) ∧
    ((lineBytes l ++ (if crlf then [13] else [])).getLast? == some 13) = crlf := by
  obtain ⟨h10, h13⟩ := (clean_iff_lineBytes l).1 hc
  cases crlf
  · rw [if_neg Bool.false_ne_true, List.append_nil]
    exact ⟨h10, beq_eq_false_iff_ne.2 fun e => h13 (List.mem_of_getLast? e)⟩
  · rw [if_pos rfl, List.getLast?_concat]
    exact ⟨fun hm => (List.mem_append.1 hm).elim h10 (by simp), rfl⟩

theorem byteLines_src (crlf : Bool) (lines : List Str) (hc : ∀ l ∈ lines, Clean l) :
    byteLines (srcBytes crlf lines) = lines.map lineBytes := by
  rw [byteLines_eq_go]
  induction lines with
  | nil => rfl
  | cons l ls ih =>
    obtain ⟨h10, h13⟩ := srcPiece crlf l (hc l List.mem_cons_self)
    rw [srcBytes_cons, go_piece _ _ h10, ih fun l' h' => hc l' (List.mem_cons_of_mem _ h'), stripCr, h13]
    cases crlf <;> simp

theorem sniffLE_src (crlf : Bool) (l : Str) (ls : List Str) (hc : Clean l) : sniffLE (srcBytes crlf (l :: ls)) = leOf crlf := by
  obtain ⟨h10, h13⟩ := srcPiece crlf l hc
  rw [srcBytes_cons, sniffLE_piece _ _ h10, h13]; rfl

theorem decodeLines_src (lines : List Str) : decodeLines (lines.map lineBytes) = (lines, true) := by
  induction lines with
  | nil => rfl
  | cons l ls ih =>
    rw [List.map_cons, decodeLines, mk_lineBytes, decode_encode, ih]

/-- the text the pass emits for plain lines (each followed by the line ending) encodes to the source bytes -/
theorem encode_joined (crlf : Bool) (lines : List Str) (hne : lines ≠ []) :
    lineBytes (joinWith (leOf crlf) lines ++ leOf crlf) = srcBytes crlf lines := by
  induction lines with
  | nil => exact absurd rfl hne
  | cons l ls ih =>
    cases ls with
    | nil => rw [lineBytes_append, lineBytes_le]; exact (List.append_nil _).symm
    | cons l2 ls2 =>
      show lineBytes (l ++ leOf crlf ++ joinWith (leOf crlf) (l2 :: ls2) ++ leOf crlf) = _
      rw [List.append_assoc, List.append_assoc, lineBytes_append, lineBytes_append, ih (List.cons_ne_nil _ _), lineBytes_le]
      exact (List.append_assoc ..).symm

end Txt
