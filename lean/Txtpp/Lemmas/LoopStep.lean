import Txtpp.Model.ProjectTrace
import Txtpp.Model.ProjSafe
/-! The step that `runLoop`, `runLoopT`, `runSched` and `loopStale` all iterate (`deliver`); two equations (`_nil`, `_cons`)
    for each of `runLoop`, `loopStale`, `runSched` (`runLoopT` has none: it is `runSched` with every choice 0,
    `runSched_oldest`), and what follows by induction from the equations alone. `runProject`, `runProjectT`, `runProjectSched` are
    `projStart` followed by a loop. -/
namespace Txt

theorem remaining_eq_true (s : PSt) : remaining s = true ↔ ∃ d, d < s.names.length ∧ ∃ a, a ∈ s.st.dm.inE d := by
  simp only [remaining, List.any_eq_true, List.mem_range, Bool.not_eq_true', List.isEmpty_eq_false_iff_exists_mem]

/-- the result the coordinator receives for the outcome of a pass of file `f`, and the names once the reported
    dependencies are interned; `none` = the pass failed -/
def resultOf (names : List Path) (f : Coord.File) : Outcome → Option (List Path × Coord.Res)
  | .err => none
  | .ok => some (names, .ok f)
  | .hasDeps deps =>
    some ((indexAll names (deps.map (fun d => splitOn '/' d))).1, .hasDeps f (indexAll names (deps.map (fun d => splitOn '/' d))).2)

/-- what the coordinator does with the outcome of a pass of file `f`, whose task is already out of the pool of
    `st`: stop with a verdict, or go on with the next names and coordinator state, having received a result -/
def deliver (names : List Path) (st : Coord.St) (f : Coord.File) (oc : Outcome) : Verdict ⊕ (List Path × Coord.St × Coord.Res) :=
  match resultOf names f oc with
  | none => .inl .err
  | some (names', r) =>
    match Coord.handle st r with
    | .cont st' => .inr (names', st', r)
    | .fail => .inl .err
    | .panic => .inl .panic

theorem deliver_ok (names : List Path) (st : Coord.St) (f : Coord.File) :
    (∃ v, v ≠ .ok ∧ deliver names st f .ok = .inl v) ∨
    ∃ st', Coord.handle st (.ok f) = .cont st' ∧ deliver names st f .ok = .inr (names, st', .ok f) := by
  simp only [deliver, resultOf]
  cases Coord.handle st (.ok f) with
  | cont st' => exact Or.inr ⟨st', rfl, rfl⟩
  | fail => exact Or.inl ⟨.err, nofun, rfl⟩
  | panic => exact Or.inl ⟨.panic, nofun, rfl⟩

theorem runLoop_nil {cfg : Cfg} {n : Nat} {s : PSt} (hp : s.st.pool = []) :
    runLoop cfg (n + 1) s = (if remaining s then .circular else .ok, s.fs) := by
  unfold runLoop; rw [hp]

/-- `r` stands for the pass result, which would otherwise be written out three times; callers pass `rfl` -/
theorem runLoop_cons {cfg : Cfg} {n : Nat} {s : PSt} {f : Coord.File} {first : Bool} {rest : List Coord.Task}
    {r : Outcome × FS} (hp : s.st.pool = .pp f first :: rest) (hr : runPass cfg s.fs (s.names.getD f []) first = r) :
    runLoop cfg (n + 1) s =
      match deliver s.names { s.st with pool := rest } f r.1 with
      | .inl v => (v, r.2)
      | .inr (names', st', _) => runLoop cfg n ⟨names', st', r.2⟩ := by
  subst hr; rw [runLoop.eq_2, hp]; simp only
  cases (runPass cfg s.fs (s.names.getD f []) first).1 with
  | err => rfl
  | _ => simp only [deliver, resultOf]; generalize Coord.handle _ _ = o; cases o <;> rfl

theorem loopStale_nil {cfg : Cfg} {tr : FS → List Path → Path → Bool → Outcome → Option (List Path)} {n : Nat} {s : PSt}
    {S : List Path} (hp : s.st.pool = []) : loopStale cfg tr (n + 1) s S = some S := by
  unfold loopStale; rw [hp]

theorem loopStale_cons {cfg : Cfg} {tr : FS → List Path → Path → Bool → Outcome → Option (List Path)} {n : Nat} {s : PSt}
    {S : List Path} {f : Coord.File} {first : Bool} {rest : List Coord.Task} {r : Outcome × FS}
    (hp : s.st.pool = .pp f first :: rest) (hr : runPass cfg s.fs (s.names.getD f []) first = r) :
    loopStale cfg tr (n + 1) s S =
      match tr s.fs S (s.names.getD f []) first r.1 with
      | none => none
      | some S' =>
        match deliver s.names { s.st with pool := rest } f r.1 with
        | .inl _ => some S'
        | .inr (names', st', _) => loopStale cfg tr n ⟨names', st', r.2⟩ S' := by
  subst hr; rw [loopStale.eq_2, hp]; simp only
  cases tr s.fs S (s.names.getD f []) first (runPass cfg s.fs (s.names.getD f []) first).1 with
  | none => rfl
  | some S' =>
    cases (runPass cfg s.fs (s.names.getD f []) first).1 with
    | err => rfl
    | _ => simp only [deliver, resultOf]; generalize Coord.handle _ _ = o; cases o <;> rfl

theorem runSched_nil {cfg : Cfg} {ch : List Nat} {n : Nat} {s : PSt} {h : List (Coord.Task × Coord.Res)}
    (hp : s.st.pool = []) : runSched cfg ch (n + 1) s h = (if remaining s then .circular else .ok, s, h) := by
  unfold runSched; rw [hp]

theorem getD_mem_cons {α} (t0 : α) (rest : List α) (k : Nat) : (t0 :: rest).getD k t0 ∈ t0 :: rest := by
  rw [List.getD_eq_getElem?_getD]
  cases hk : (t0 :: rest)[k]? with
  | none => exact List.mem_cons_self
  | some x => exact List.mem_of_getElem? hk

theorem runSched_cons (cfg : Cfg) (ch : List Nat) (n : Nat) (s : PSt) (h : List (Coord.Task × Coord.Res)) (hp : s.st.pool ≠ []) :
    ∃ f first, Coord.Task.pp f first ∈ s.st.pool ∧ ∀ {r}, runPass cfg s.fs (s.names.getD f []) first = r →
      runSched cfg ch (n + 1) s h =
      match deliver s.names { s.st with pool := s.st.pool.erase (.pp f first) } f r.1 with
      | .inl v => (v, { s with fs := r.2 }, h)
      | .inr (names', st', res) => runSched cfg ch.tail n ⟨names', st', r.2⟩ (h ++ [(.pp f first, res)]) := by
  rw [runSched.eq_2]
  cases hpool : s.st.pool with
  | nil => exact absurd hpool hp
  | cons t0 rest0 =>
    simp only
    have hin := getD_mem_cons t0 rest0 (ch.headD 0 % (t0 :: rest0).length)
    generalize (t0 :: rest0).getD (ch.headD 0 % (t0 :: rest0).length) t0 = t at hin ⊢
    cases t with
    | pp f first =>
      refine ⟨f, first, hin, fun hr => ?_⟩
      subst hr
      cases (runPass cfg s.fs (s.names.getD f []) first).1 with
      | err => rfl
      | _ => simp only [deliver, resultOf]; generalize Coord.handle _ _ = o; cases o <;> rfl

/-- the reference loop and its traced version are the scheduled loop with the choice "always the oldest" -/
theorem runSched_oldest (cfg : Cfg) : ∀ (n : Nat) (s : PSt) (h : List (Coord.Task × Coord.Res)),
    runSched cfg [] n s h = ((runLoop cfg n s).1, runLoopT cfg n s h) ∧ (runLoopT cfg n s h).1.fs = (runLoop cfg n s).2 := by
  intro n
  induction n with
  | zero => intro s h; exact ⟨rfl, rfl⟩
  | succ n ih =>
    intro s h
    rw [runSched.eq_2, runLoop.eq_2, runLoopT.eq_2]
    cases s.st.pool with
    | nil => exact ⟨rfl, rfl⟩
    | cons t rest =>
      cases t with
      | pp f first =>
        simp only [List.headD_nil, Nat.zero_mod, List.getD_cons_zero, List.erase_cons_head, List.tail_nil]
        cases (runPass cfg s.fs (s.names.getD f []) first).1 with
        | err => exact ⟨rfl, rfl⟩
        | _ =>
          simp only; generalize Coord.handle _ _ = o
          cases o with
          | cont st' => exact ih _ _
          | _ => exact ⟨rfl, rfl⟩

theorem runLoop_inv (cfg : Cfg) (I : FS → Prop) (hpass : ∀ fs src first, I fs → I (runPass cfg fs src first).2)
    (fuel : Nat) (s : PSt) (h : I s.fs) : I (runLoop cfg fuel s).2 := by
  induction fuel generalizing s with
  | zero => exact h
  | succ n ih =>
    cases hp : s.st.pool with
    | nil => rw [runLoop_nil hp]; exact h
    | cons t rest =>
      cases t with
      | pp f first =>
        rw [runLoop_cons hp rfl]
        split
        · exact hpass _ _ _ h
        · exact ih _ (hpass _ _ _ h)

theorem runLoop_fuel_mono (cfg : Cfg) : ∀ (n k : Nat) (s : PSt), (runLoop cfg n s).1 ≠ .outOfFuel →
    runLoop cfg (n + k) s = runLoop cfg n s := by
  intro n
  induction n with
  | zero => intro k s h; exact absurd rfl h
  | succ n ih =>
    intro k s h
    rw [show n + 1 + k = (n + k) + 1 by omega]
    cases hp : s.st.pool with
    | nil => rw [runLoop_nil hp, runLoop_nil hp]
    | cons t rest =>
      cases t with
      | pp f first =>
        rw [runLoop_cons (n := n) hp rfl] at h ⊢
        rw [runLoop_cons hp rfl]
        revert h
        split
        · exact fun _ => rfl
        · exact ih k _

theorem runLoop_fuel_le (cfg : Cfg) {n m : Nat} {s : PSt} (hle : n ≤ m) (h : (runLoop cfg n s).1 ≠ .outOfFuel) :
    runLoop cfg m s = runLoop cfg n s := by
  obtain ⟨k, rfl⟩ := Nat.exists_eq_add_of_le hle
  exact runLoop_fuel_mono cfg n k s h

/-- lockstep of two sequential runs (`cfg` from `s1`, `cfg2` from `s2`) whose passes keep the file systems related
    (`R S a b`: related up to the stale set `S`) as `hpass` says; if `E`, the second may also stop with an error at any pass -/
theorem runLoop_lockstep (R : List Path → FS → FS → Prop) (E : Prop) (cfg cfg2 : Cfg) (tr : FS → List Path → Path → Bool → Outcome → Option (List Path))
    (hpass : ∀ (a b : FS) (S S' : List Path) (src : Path) (first : Bool), R S a b →
      tr a S src first (runPass cfg a src first).1 = some S' →
      (E ∧ (runPass cfg2 b src first).1 = .err) ∨
      ((runPass cfg a src first).1 = (runPass cfg2 b src first).1 ∧
       R S' (runPass cfg a src first).2 (runPass cfg2 b src first).2)) :
    ∀ (fuel : Nat) (s1 s2 : PSt) (S Sfin : List Path), s1.names = s2.names → s1.st = s2.st → R S s1.fs s2.fs →
      loopStale cfg tr fuel s1 S = some Sfin →
      (E ∧ (runLoop cfg2 fuel s2).1 = .err) ∨
      ((runLoop cfg fuel s1).1 = (runLoop cfg2 fuel s2).1 ∧ R Sfin (runLoop cfg fuel s1).2 (runLoop cfg2 fuel s2).2) := by
  intro fuel
  induction fuel with
  | zero => intro s1 s2 S Sfin _ _ hag h; cases h; exact Or.inr ⟨rfl, hag⟩
  | succ fuel ih =>
    intro s1 s2 S Sfin hn hst hag h
    cases hp : s1.st.pool with
    | nil =>
      rw [loopStale_nil hp] at h; cases h
      rw [runLoop_nil hp, runLoop_nil (hst ▸ hp)]
      have : remaining s1 = remaining s2 := by unfold remaining; rw [hn, hst]
      rw [this]; exact Or.inr ⟨rfl, hag⟩
    | cons t rest =>
      cases t with
      | pp f first =>
        rw [loopStale_cons hp rfl] at h
        rw [runLoop_cons hp rfl, runLoop_cons (hst ▸ hp) rfl, ← hn, ← hst]
        cases htr : tr s1.fs S (s1.names.getD f []) first (runPass cfg s1.fs (s1.names.getD f []) first).1 with
        | none => rw [htr] at h; cases h
        | some S' =>
          rw [htr] at h
          rcases hpass _ _ _ _ _ _ hag htr with ⟨hE, herr⟩ | ⟨hoc, hag'⟩
          · rw [herr]; exact Or.inl ⟨hE, rfl⟩
          · rw [← hoc]; revert h
            cases deliver s1.names { s1.st with pool := rest } f (runPass cfg s1.fs (s1.names.getD f []) first).1 with
            | inl v => intro h; cases h; exact Or.inr ⟨rfl, hag'⟩
            | inr x => exact ih _ _ S' Sfin rfl rfl hag'

/-- the coordinator's inputs of a whole run (the indices of the resolved files) -/
def projIdx (cfg : Cfg) (fs : FS) (inputs : List Str) : List Coord.File :=
  match resolveInputs cfg fs inputs with
  | none => []
  | some (files, dirs) => (indexAll [] (files ++ scanAll fs cfg.recursive (fs.dirs.length + dirs.length + 2) dirs [])).2

theorem runProject_eq (cfg : Cfg) (fs : FS) (inputs : List Str) :
    runProject cfg fs inputs = match projStart cfg fs inputs with
      | none => (.err, fs)
      | some s => runLoop cfg (projFuel fs) s := by
  unfold runProject projStart projFuel
  cases resolveInputs cfg fs inputs <;> rfl

theorem runProjectT_eq (cfg : Cfg) (fs : FS) (inputs : List Str) :
    runProjectT cfg fs inputs = (projStart cfg fs inputs).map fun s =>
      (projIdx cfg fs inputs, (runLoopT cfg (projFuel fs) s []).1, (runLoopT cfg (projFuel fs) s []).2) := by
  unfold runProjectT projStart projFuel projIdx
  cases resolveInputs cfg fs inputs <;> rfl

theorem runProjectSched_eq (cfg : Cfg) (ch : List Nat) (fs : FS) (inputs : List Str) :
    runProjectSched cfg ch fs inputs = (projStart cfg fs inputs).map fun s =>
      ((runSched cfg ch (projFuel fs) s []).1, projIdx cfg fs inputs, (runSched cfg ch (projFuel fs) s []).2.1,
        (runSched cfg ch (projFuel fs) s []).2.2) := by
  unfold runProjectSched projStart projFuel projIdx
  cases resolveInputs cfg fs inputs <;> rfl

theorem projStart_fs {cfg : Cfg} {fs : FS} {inputs : List Str} {s : PSt} (h : projStart cfg fs inputs = some s) : s.fs = fs := by
  unfold projStart at h
  split at h <;> cases h
  rfl

theorem runProject_inv (cfg : Cfg) (I : FS → Prop)
    (hpass : ∀ fs src first, I fs → I (runPass cfg fs src first).2)
    (fs : FS) (inputs : List Str) (h : I fs) : I (runProject cfg fs inputs).2 := by
  rw [runProject_eq]
  cases hs : projStart cfg fs inputs with
  | none => exact h
  | some s => exact runLoop_inv cfg I hpass _ s (projStart_fs hs ▸ h)

end Txt
