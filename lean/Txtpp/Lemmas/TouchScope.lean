import Txtpp.Lemmas.RunPassFacts
import Txtpp.Lemmas.LoopStep
/-! The write scope of a pass, stated over the *source text*: every path a pass (and a whole run)
    adds to the touch set is the output path of a processed source or the resolution of the first
    argument of a `temp` block of that source's text (C10). An instance of `runPass_closed`. -/
namespace Txt

/-- scope invariant: directories unchanged, the touch set grew only by allowed paths, and every other path holds what it held -/
def Scope (fs0 : FS) (A : Path → Prop) (fs : FS) : Prop :=
  fs.dirs = fs0.dirs ∧ (∀ p ∈ fs.touched, p ∈ fs0.touched ∨ A p) ∧ (∀ q, ¬ A q → fs.file? q = fs0.file? q)

theorem Scope.mono (fs0 : FS) (A B : Path → Prop) (fs : FS) (hAB : ∀ p, A p → B p) (h : Scope fs0 A fs) : Scope fs0 B fs :=
  ⟨h.1, fun p hp => (h.2.1 p hp).imp id (hAB p), fun q hq => h.2.2 q (fun ha => hq (hAB q ha))⟩

/-- one step that changes the allowed path `p` only -/
theorem Scope.step {fs0 fs fs' : FS} {A : Path → Prop} {p : Path} (h : Scope fs0 A fs) (hp : A p) (hd : fs'.dirs = fs.dirs)
    (ht : ∀ q, q ∈ fs'.touched ↔ q = p ∨ q ∈ fs.touched) (hf : ∀ q, q ≠ p → fs'.file? q = fs.file? q) : Scope fs0 A fs' := by
  refine ⟨hd.trans h.1, fun q hq => ?_, fun q hq => ?_⟩
  · rcases (ht q).1 hq with rfl | hq
    · exact Or.inr hp
    · exact h.2.1 q hq
  · rw [hf q (fun e => hq (e ▸ hp))]; exact h.2.2 q hq

theorem Scope.write (fs0 : FS) (A : Path → Prop) (fs : FS) (p : Path) (b : ByteArray) (h : Scope fs0 A fs) (hp : A p) :
    Scope fs0 A (fs.write p b) :=
  h.step hp rfl (fun q => touched_write fs p q b) (fun q => file?_write_other fs p q b)

theorem Scope.remove (fs0 : FS) (A : Path → Prop) (fs : FS) (p : Path) (h : Scope fs0 A fs) (hp : A p) :
    Scope fs0 A (fs.remove p) :=
  h.step hp rfl (touched_remove fs p) (file?_remove_other fs p)

theorem Scope.refl (fs : FS) (A : Path → Prop) : Scope fs A fs := ⟨rfl, fun _ h => Or.inl h, fun _ _ => rfl⟩

theorem scope_closed {mode : Mode} {A : Path → Prop} (fs0 : FS) : FsClosed mode A (Scope fs0 A) :=
  ⟨fun _ fs p b hp h => Scope.write fs0 A fs p b h hp, fun _ fs p hp h => Scope.remove fs0 A fs p h hp, fun _ _ _ h => h⟩

theorem runPass_scope (cfg : Cfg) (fs : FS) (src : Path) (first : Bool) :
    Scope fs (PassAllowed cfg fs src) (runPass cfg fs src first).2 :=
  runPass_closed cfg fs src first _ (scope_closed fs) (Scope.refl fs _)

/-- the whole-run invariant: relative to the initial file system `fs0`, everything touched is in
    the pass scope of a source whose bytes are the initial ones, or of a source the run itself wrote -/
def RunScope (cfg : Cfg) (fs0 fs : FS) : Prop :=
  Untouched fs0 fs ∧ fs.dirs = fs0.dirs ∧
  ∀ p ∈ fs.touched, p ∈ fs0.touched ∨
    ∃ src content, PassScope cfg fs0 src content p ∧ (fs0.file? src = some content ∨ src ∈ fs.touched)

theorem runPass_runScope (cfg : Cfg) (fs0 fs : FS) (src : Path) (first : Bool) (h : RunScope cfg fs0 fs) :
    RunScope cfg fs0 (runPass cfg fs src first).2 := by
  obtain ⟨hu, hd, ht⟩ := h
  have hu2 := runPass_untouched cfg fs src first
  have hs := runPass_scope cfg fs src first
  refine ⟨Untouched.trans fs0 fs _ hu hu2, hs.1.trans hd, fun p hp => ?_⟩
  rcases hs.2.1 p hp with hold | ⟨content, hfile, hsc⟩
  · rcases ht p hold with h0 | ⟨s, c, hps, hsrc⟩
    · exact Or.inl h0
    · exact Or.inr ⟨s, c, hps, hsrc.imp id (fun hm => hu2.2 s hm)⟩
  · refine Or.inr ⟨src, content, ?_, ?_⟩
    · rcases hsc with ho | htt
      · exact Or.inl ho
      · exact Or.inr (TempTarget_dirs cfg fs0 fs _ _ p hd htt)
    · by_cases hm : src ∈ fs.touched
      · exact Or.inr (hu2.2 src hm)
      · exact Or.inl (by rw [← hu.1 src hm]; exact hfile)

theorem runProject_runScope (cfg : Cfg) (fs : FS) (inputs : List Str) : RunScope cfg fs (runProject cfg fs inputs).2 :=
  runProject_inv cfg (RunScope cfg fs) (fun fs1 src first h => runPass_runScope cfg fs fs1 src first h) fs inputs
    ⟨Untouched.refl fs, rfl, fun _ h => Or.inl h⟩

end Txt
