import Txtpp.Model.ProjSafe
import Txtpp.Lemmas.RunPassFacts
/-! The side conditions of the relational pass theorems: `Safe` (no block reads a path while it is
    stale), its first-pass aware form `SafeTo`, `ProbesOK`, `WritesIn`, what is still stale afterwards
    (`staleAfter`), and the executable checks of `Model/Safe.lean` and `Model/ProjSafe.lean`, which decide `Safe` and
    `ProbesOK` and are sound for `SafeTo`. -/
namespace Txt
open Refine (Block)

/-- order-aware: no block reads a path that is still stale when the block is reached; a `temp`
    block makes its target fresh -/
def Safe (cfg : Cfg) (fs0 : FS) (wd : Path) : List (Block Directive) → List Path → Prop
  | [], _ => True
  | .text _ :: bs, S => Safe cfg fs0 wd bs S
  | .dir d _ :: bs, S => (∀ p ∈ dirReads cfg fs0 wd d, p ∉ S) ∧ Safe cfg fs0 wd bs (staleAfterDir cfg fs0 wd d S)

/-- what is still stale after all blocks were executed -/
def staleAfter (cfg : Cfg) (fs0 : FS) (wd : Path) : List (Block Directive) → List Path → List Path
  | [], S => S
  | .text _ :: bs, S => staleAfter cfg fs0 wd bs S
  | .dir d _ :: bs, S => staleAfter cfg fs0 wd bs (staleAfterDir cfg fs0 wd d S)

/-- no dependency look-up of a block probes a path of the initial stale set `S0`. Not order-aware: look-ups go on
    after a first pass has stopped executing (collect mode), when the shrinking stale set is no longer tracked -/
def ProbesOK (cfg : Cfg) (fs0 : FS) (wd : Path) (S0 : List Path) (bs : List (Block Directive)) : Prop :=
  ∀ d e, Block.dir d e ∈ bs → ∀ p ∈ dirProbes cfg fs0 wd d, p ∉ S0

/-- no executed block reads a path while it is stale; `Sfin` = what is still stale after the last
    block (unconstrained when a first pass stops executing at a dependency directive) -/
def SafeTo (cfg : Cfg) (fs0 : FS) (wd : Path) (first : Bool) : List (Block Directive) → List Path → List Path → Prop
  | [], S, Sfin => S = Sfin
  | .text _ :: bs, S, Sfin => SafeTo cfg fs0 wd first bs S Sfin
  | .dir d _ :: bs, S, Sfin =>
    (first = true ∧ isDepB cfg fs0 wd d = true) ∨
    ((∀ p ∈ dirReads cfg fs0 wd d, p ∉ S) ∧ SafeTo cfg fs0 wd first bs (staleAfterDir cfg fs0 wd d S) Sfin)

/-- every temp target of the blocks lies in `S0` -/
def WritesIn (cfg : Cfg) (fs0 : FS) (wd : Path) (S0 : List Path) (bs : List (Block Directive)) : Prop :=
  ∀ d e, Block.dir d e ∈ bs → ∀ p, dirWrites cfg fs0 wd d = some p → p ∈ S0

theorem ProbesOK.tail {cfg : Cfg} {fs0 : FS} {wd : Path} {S0 : List Path} {b : Block Directive} {bs : List (Block Directive)}
    (h : ProbesOK cfg fs0 wd S0 (b :: bs)) : ProbesOK cfg fs0 wd S0 bs := fun d e hm => h d e (List.mem_cons_of_mem _ hm)

theorem WritesIn.tail {cfg : Cfg} {fs0 : FS} {wd : Path} {S0 : List Path} {b : Block Directive} {bs : List (Block Directive)}
    (h : WritesIn cfg fs0 wd S0 (b :: bs)) : WritesIn cfg fs0 wd S0 bs := fun d e hm => h d e (List.mem_cons_of_mem _ hm)

theorem all_not_contains (l S : List Path) : (l.all fun p => !S.contains p) = true ↔ ∀ p ∈ l, p ∉ S := by
  simp [List.all_eq_true]

theorem safeB_iff (cfg : Cfg) (fs0 : FS) (wd : Path) (bs : List (Block Directive)) (S : List Path) :
    safeB cfg fs0 wd bs S = true ↔ Safe cfg fs0 wd bs S := by
  fun_induction safeB cfg fs0 wd bs S with
  | case1 => simp [Safe]
  | case2 _ _ _ ih => exact ih
  | case3 _ _ _ _ ih => simp only [Safe, Bool.and_eq_true, all_not_contains, ih]

theorem probesB_iff (cfg : Cfg) (fs0 : FS) (wd : Path) (S0 : List Path) (bs : List (Block Directive)) :
    probesB cfg fs0 wd S0 bs = true ↔ ProbesOK cfg fs0 wd S0 bs := by
  simp only [probesB, ProbesOK, List.all_eq_true]
  constructor
  · exact fun h d e hm => (all_not_contains ..).1 (h _ hm)
  · intro h b hb
    cases b with
    | text l => rfl
    | dir d e => exact (all_not_contains ..).2 (h d e hb)

theorem safeToB_spec (cfg : Cfg) (fs0 : FS) (wd : Path) (first : Bool) (bs : List (Block Directive)) (S Sfin : List Path)
    (h : safeToB cfg fs0 wd first bs S = some Sfin) : SafeTo cfg fs0 wd first bs S Sfin := by
  fun_induction safeToB cfg fs0 wd first bs S with
  | case1 => exact Option.some.inj h
  | case2 _ _ _ ih => exact ih h
  | case3 _ _ _ _ hc => exact Or.inl (by simpa using hc)
  | case4 _ _ _ _ _ hr ih => exact Or.inr ⟨(all_not_contains ..).1 hr, ih h⟩
  | case5 => cases h

/-- the first-pass unaware condition implies the aware one -/
theorem SafeTo.of_safe (cfg : Cfg) (fs0 : FS) (wd : Path) (first : Bool) : ∀ (bs : List (Block Directive)) (S : List Path),
    Safe cfg fs0 wd bs S → SafeTo cfg fs0 wd first bs S (staleAfter cfg fs0 wd bs S) := by
  intro bs S h
  fun_induction Safe cfg fs0 wd bs S with
  | case1 => rfl
  | case2 _ _ _ ih => exact ih h
  | case3 _ _ _ _ ih => exact Or.inr ⟨h.1, ih h.2⟩

theorem safeTo_false_iff (cfg : Cfg) (fs0 : FS) (wd : Path) (bs : List (Block Directive)) (S Sfin : List Path) :
    SafeTo cfg fs0 wd false bs S Sfin ↔ Safe cfg fs0 wd bs S ∧ staleAfter cfg fs0 wd bs S = Sfin := by
  fun_induction Safe cfg fs0 wd bs S with
  | case1 => simp [SafeTo, staleAfter]
  | case2 _ _ _ ih => exact ih
  | case3 _ _ _ _ ih => simp [SafeTo, staleAfter, ih, and_assoc]

theorem isDepB_iff (cfg : Cfg) (fs0 : FS) (wd : Path) (d : Directive) :
    isDepB cfg fs0 wd d = true ↔ (d.ty = .include ∨ d.ty = .after) ∧ (fs0.depOf cfg wd (d.args.headD [])).isSome = true := by
  simp only [isDepB, Bool.and_eq_true, Bool.or_eq_true, beq_iff_eq]

theorem dirWrites_temp (cfg : Cfg) (fs0 : FS) (wd : Path) (d : Directive) (t : Str) (body : List Str)
    (hty : d.ty = .temp) (hargs : d.args = t :: body) (hnt : isTxtppPath t = false) :
    dirWrites cfg fs0 wd d = fs0.resolve cfg wd t := by
  simp only [dirWrites, hty, if_true, hargs, hnt, Bool.false_eq_true, if_false]

theorem staleAfterDir_other {cfg : Cfg} {fs0 : FS} {wd : Path} {d : Directive} {S : List Path} (hty : d.ty ≠ .temp) :
    staleAfterDir cfg fs0 wd d S = S := by
  simp [staleAfterDir, dirWrites, hty]

theorem mem_staleAfterDir (cfg : Cfg) (fs0 : FS) (wd : Path) (d : Directive) (S : List Path) (q : Path) :
    q ∈ staleAfterDir cfg fs0 wd d S ↔ q ∈ S ∧ dirWrites cfg fs0 wd d ≠ some q := by
  unfold staleAfterDir
  cases dirWrites cfg fs0 wd d with
  | none => simp
  | some p =>
    simp only [List.mem_filter, bne_iff_ne, ne_eq, Option.some.injEq]
    exact and_congr_right fun _ => not_congr eq_comm

theorem mem_staleAfter (cfg : Cfg) (fs0 : FS) (wd : Path) (q : Path) (bs : List (Block Directive)) (S : List Path) :
    q ∈ staleAfter cfg fs0 wd bs S ↔ q ∈ S ∧ ∀ d e, Block.dir d e ∈ bs → dirWrites cfg fs0 wd d ≠ some q := by
  fun_induction staleAfter cfg fs0 wd bs S with
  | case1 => simp
  | case2 _ _ _ ih => simp only [ih, List.mem_cons, reduceCtorEq, false_or]
  | case3 d e _ _ ih =>
    simp only [ih, mem_staleAfterDir, List.mem_cons, Block.dir.injEq, and_assoc]
    exact and_congr_right fun _ =>
      ⟨fun ⟨h1, h2⟩ d' e' hm => hm.elim (fun he => he.1 ▸ h1) (h2 d' e'),
       fun h => ⟨h d e (Or.inl ⟨rfl, rfl⟩), fun d' e' hm => h d' e' (Or.inr hm)⟩⟩

theorem mem_generated (cfg : Cfg) (fs0 : FS) (wd : Path) (o : Path) (bs : List (Block Directive)) (q : Path) :
    q ∈ generated cfg fs0 wd o bs ↔ q = o ∨ ∃ d e, Block.dir d e ∈ bs ∧ dirWrites cfg fs0 wd d = some q := by
  simp only [generated, List.mem_cons, List.mem_filterMap]
  constructor
  · rintro (h | ⟨b, hb, hq⟩)
    · exact Or.inl h
    · cases b with
      | text l => simp at hq
      | dir d e => exact Or.inr ⟨d, e, hb, hq⟩
  · rintro (h | ⟨d, e, hb, hq⟩)
    · exact Or.inl h
    · exact Or.inr ⟨.dir d e, hb, hq⟩

theorem staleAfterDir_mono (cfg : Cfg) (fs0 : FS) (wd : Path) (d : Directive) (S S' : List Path) (h : ∀ q, q ∈ S' → q ∈ S) :
    ∀ q, q ∈ staleAfterDir cfg fs0 wd d S' → q ∈ staleAfterDir cfg fs0 wd d S := fun q hq =>
  (mem_staleAfterDir ..).2 (((mem_staleAfterDir ..).1 hq).imp_left (h q))

theorem Safe.mono {cfg : Cfg} {fs0 : FS} {wd : Path} {bs : List (Block Directive)} {S S' : List Path}
    (hs : Safe cfg fs0 wd bs S) (hsub : ∀ q, q ∈ S' → q ∈ S) : Safe cfg fs0 wd bs S' := by
  fun_induction Safe cfg fs0 wd bs S generalizing S' with
  | case1 => trivial
  | case2 _ _ _ ih => exact ih hs hsub
  | case3 d _ _ _ ih => exact ⟨fun p hp hm => hs.1 p hp (hsub p hm), ih hs.2 (staleAfterDir_mono cfg fs0 wd d _ S' hsub)⟩

theorem ProbesOK.mono {cfg : Cfg} {fs0 : FS} {wd : Path} {bs : List (Block Directive)} {S S' : List Path}
    (h : ProbesOK cfg fs0 wd S bs) (hsub : ∀ q, q ∈ S' → q ∈ S) : ProbesOK cfg fs0 wd S' bs :=
  fun d e hm p hp hc => h d e hm p hp (hsub p hc)

theorem probesOK_nil (cfg : Cfg) (fs0 : FS) (wd : Path) (bs : List (Block Directive)) : ProbesOK cfg fs0 wd [] bs :=
  fun _ _ _ _ _ hm => nomatch hm

theorem safeTo_nil (cfg : Cfg) (fs0 : FS) (wd : Path) (first : Bool) : ∀ bs : List (Block Directive), SafeTo cfg fs0 wd first bs [] []
  | [] => rfl
  | .text _ :: bs => safeTo_nil cfg fs0 wd first bs
  | .dir d _ :: bs => by
    have : staleAfterDir cfg fs0 wd d [] = [] := by unfold staleAfterDir; split <;> rfl
    exact Or.inr ⟨fun _ _ hm => (nomatch hm), by rw [this]; exact safeTo_nil cfg fs0 wd first bs⟩

theorem staleAfter_nil (cfg : Cfg) (fs0 : FS) (wd : Path) : ∀ bs : List (Block Directive), staleAfter cfg fs0 wd bs [] = [] :=
  fun bs => ((safeTo_false_iff cfg fs0 wd bs [] []).1 (safeTo_nil cfg fs0 wd false bs)).2

theorem writesIn_generated (cfg : Cfg) (fs0 : FS) (wd : Path) (o : Path) (bs : List (Block Directive)) (S : List Path) :
    WritesIn cfg fs0 wd (generated cfg fs0 wd o bs ++ S) bs := by
  intro d e hm p hw
  exact List.mem_append_left _ ((mem_generated cfg fs0 wd o bs p).2 (Or.inr ⟨d, e, hm, hw⟩))

theorem self_mem_generated (cfg : Cfg) (a : FS) (wd : Path) (o : Path) (bs : List (Block Directive)) :
    o ∈ generated cfg a wd o bs := List.mem_cons_self

theorem singleton_sub_generated (cfg : Cfg) (a : FS) {wd : Path} (o : Path) (bs : List (Block Directive)) :
    ∀ q, q ∈ [o] → q ∈ generated cfg a wd o bs := fun _ hq => List.mem_singleton.1 hq ▸ self_mem_generated cfg a wd o bs

/-- of stale paths the pass generates itself none is left when it ends `ok`: the temp blocks have rewritten
    their targets, closing has rewritten the output -/
theorem not_mem_stale_end {cfg : Cfg} {fs0 : FS} {wd : Path} {o : Path} {bs : List (Block Directive)} {S : List Path}
    (hgen : ∀ p ∈ S, p ∈ generated cfg fs0 wd o bs) (q : Path) : q ∉ (staleAfter cfg fs0 wd bs S).filter (· != o) := by
  intro hq
  obtain ⟨hq1, hqo⟩ := List.mem_filter.1 hq
  obtain ⟨hqS, hnw⟩ := (mem_staleAfter cfg fs0 wd q bs S).1 hq1
  rcases (mem_generated cfg fs0 wd o bs q).1 (hgen q hqS) with h1 | ⟨d, e, hmem, hw⟩
  · exact absurd h1 (by simpa using hqo)
  · exact hnw d e hmem hw

theorem tempTarget_dirWrites (cfg : Cfg) (a : FS) (wd : Path) (lines : List Str) (bs : List (Block Directive))
    (hbs : srcBlocks cfg.mode lines = some bs) (p : Path) (h : TempTarget cfg a wd lines p) :
    ∃ d e, Block.dir d e ∈ bs ∧ dirWrites cfg a wd d = some p := by
  obtain ⟨bs', d, e, t, body, h1, h2, h3, h4, h5, h6⟩ := h
  rw [hbs] at h1; cases h1
  exact ⟨d, e, h2, by rw [dirWrites_temp cfg a wd d t body h3 h4 h5]; exact h6⟩

theorem passAllowed_generated (cfg : Cfg) (a : FS) (src : Path) (content : ByteArray) (o : Path) (bs : List (Block Directive))
    (hfile : a.file? src = some content) (hout : outputPath src = some o)
    (hbs : srcBlocks cfg.mode (decodeLines (byteLines content.toList)).1 = some bs) (q : Path)
    (h : PassAllowed cfg a src q) : q ∈ generated cfg a src.dropLast o bs := by
  obtain ⟨c, hc, hs⟩ := h
  rw [hfile] at hc; cases hc
  rw [mem_generated]
  exact hs.imp (fun ho => by rw [hout] at ho; exact (Option.some.inj ho).symm) (tempTarget_dirWrites cfg a _ _ bs hbs q)

/-- everything `srcSafeB` checks, with everything the pass generates taken as stale -/
theorem srcSafeB_true (cfg : Cfg) (fs : FS) (src : Path) (h : srcSafeB cfg fs src = some true) :
    ∃ content o bs, fs.file? src = some content ∧ outputPath src = some o ∧
      srcBlocks cfg.mode (decodeLines (byteLines content.toList)).1 = some bs ∧
      src ∉ generated cfg fs src.dropLast o bs ∧
      Safe cfg fs src.dropLast bs (generated cfg fs src.dropLast o bs) ∧
      ProbesOK cfg fs src.dropLast (generated cfg fs src.dropLast o bs) bs ∧
      fs.isDir o = false ∧ ∀ d e, Block.dir d e ∈ bs → dirWrites cfg fs src.dropLast d ≠ some o := by
  unfold srcSafeB at h
  split at h
  · rename_i content o hf ho
    split at h
    · rename_i bs hb
      simp only [Option.some.injEq, Bool.and_eq_true, Bool.not_eq_true'] at h
      obtain ⟨⟨⟨⟨h1, h2⟩, h3⟩, h4⟩, h5⟩ := h
      refine ⟨content, o, bs, hf, ho, hb, by simpa using h1, (safeB_iff ..).1 h2, (probesB_iff ..).1 h3, h4, fun d e hm hw => ?_⟩
      have : o ∈ (generated cfg fs src.dropLast o bs).tail := List.mem_filterMap.2 ⟨.dir d e, hm, hw⟩
      simp [this] at h5
    · cases h
  · cases h

/-- the executable side condition computed by the driver (`srcSafeB`) gives the hypotheses of the one-source
    theorems, with everything the pass generates taken as stale (its two further checks: `srcSafeB_output`) -/
theorem srcSafeB_spec (cfg : Cfg) (fs : FS) (src : Path) (h : srcSafeB cfg fs src = some true) :
    ∃ content o bs, fs.file? src = some content ∧ outputPath src = some o ∧
      srcBlocks cfg.mode (decodeLines (byteLines content.toList)).1 = some bs ∧
      src ∉ generated cfg fs src.dropLast o bs ∧
      Safe cfg fs src.dropLast bs (generated cfg fs src.dropLast o bs) ∧
      ProbesOK cfg fs src.dropLast (generated cfg fs src.dropLast o bs) bs :=
  let ⟨content, o, bs, hf, ho, hb, h1, h2, h3, _⟩ := srcSafeB_true cfg fs src h
  ⟨content, o, bs, hf, ho, hb, h1, h2, h3⟩

/-- the two extra facts `srcSafeB` checks: the output path is not a directory and not a temp target -/
theorem srcSafeB_output (cfg : Cfg) (fs : FS) (src : Path) (h : srcSafeB cfg fs src = some true) :
    ∀ o, outputPath src = some o → fs.isDir o = false ∧
      ∀ content bs, fs.file? src = some content → srcBlocks cfg.mode (decodeLines (byteLines content.toList)).1 = some bs →
        ∀ d e, Block.dir d e ∈ bs → dirWrites cfg fs src.dropLast d ≠ some o := by
  obtain ⟨content, o, bs, hf, ho, hb, _, _, _, h4, h5⟩ := srcSafeB_true cfg fs src h
  intro o' ho'
  cases ho.symm.trans ho'
  refine ⟨h4, fun c' bs' hc' hb' => ?_⟩
  cases hf.symm.trans hc'
  cases hb.symm.trans hb'
  exact h5

end Txt
