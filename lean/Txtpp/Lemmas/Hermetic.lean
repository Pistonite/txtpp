import Txtpp.Lemmas.Term
import Txtpp.Lemmas.Worker
/-! Project level, abstract in what a pass computes. Every file the coordinator sees is reachable from the inputs along
    dependency edges, so the delivery budget holds over any finite dependency-closed universe (C03); at a successful exit
    the finished files are exactly that closure, and every output is the same whatever was on disk before the run and
    whatever the schedule (C08); `VerifyWorld` is the hypothesis under which C06 speaks of a verify run. -/
namespace Coord
variable {C : Type}

theorem seen_reachable (w : World) (inputs : List File) (s : St) (h : Reach w inputs s) :
    ∀ f ∈ s.seen, ∃ i ∈ inputs, Path w.deps i f := by
  induction h with
  | init =>
    intro f hf
    rcases mem_execFiles_seen.1 hf with h | ⟨_, h⟩
    · cases h
    · exact ⟨f, h, Path.refl f⟩
  | step s s' hr hs ih =>
    obtain ⟨t, ht, hc⟩ := hs
    intro f hf
    rcases handle_seen hc f hf with h | ⟨a, deps, hres, hd⟩
    · exact ih f h
    · -- `f` is a dependency reported by the first pass of `a`, which is seen
      obtain ⟨rfl, rfl, _⟩ := result_hasDeps hres
      obtain ⟨i, hi, hp⟩ := ih a ((reach_inv w inputs s hr).poolSeen a true ht)
      exact ⟨i, hi, hp.snoc hd⟩

/-- C03: termination over a finite universe that contains the inputs and is closed under
    dependencies — no further hypothesis -/
theorem terminates_closed (w : World) (inputs U : List File) (hin : ∀ i ∈ inputs, i ∈ U)
    (hcl : ∀ f ∈ U, ∀ d ∈ w.deps f, d ∈ U) (n : Nat) (s : St) (h : ReachN w inputs n s) : n ≤ 2 * U.length := by
  have hr := reachN_reach w inputs n s h
  refine terminates w inputs U n s h ((reach_inv w inputs s hr).seenND.length_le_of_subset fun f hf => ?_)
  obtain ⟨i, hi, hp⟩ := seen_reachable w inputs s hr f hf
  exact hp.mem_of_closed (S := (· ∈ U)) hcl (hin i hi)

theorem inputs_seen (w : World) (inputs : List File) (s : St) (h : Reach w inputs s) : ∀ i ∈ inputs, i ∈ s.seen := by
  induction h with
  | init => exact fun i hi => mem_execFiles_seen.2 (Or.inr ⟨rfl, hi⟩)
  | step s s' _ hs ih =>
    obtain ⟨_, _, hc⟩ := hs
    exact fun i hi => handle_seen_mono hc i (ih i hi)

theorem success_fin_eq_closure (w : World) (inputs : List File) (s : St) (h : Reach w inputs s)
    (hq : s.pool = []) (hno : ¬ Leftover s) (f : File) : f ∈ s.dm.fin ↔ ∃ i ∈ inputs, Path w.deps i f := by
  have hI := reach_inv w inputs s h
  refine ⟨fun hf => seen_reachable w inputs s h f (hI.finSeen f hf), fun ⟨i, hi, hp⟩ => ?_⟩
  exact hp.mem_of_closed (S := (· ∈ s.dm.fin)) hI.finDeps
    (success_all_finished w inputs s h hq hno i (inputs_seen w inputs s h i hi))

/-- C08 (project level): two successful runs over the same sources and inputs — started from
    different contents of the generated files (`out0`, `out0'`), under different schedules and thread
    counts — finish exactly the same set of files and leave every output with the same value. -/
theorem hermetic (w : World) (R : Sem C) (hR : RenderLocal w R) (inputs : List File)
    (out0 out0' : File → OutState C) (x x' : WSt C)
    (h : WReach w R inputs out0 x) (h' : WReach w R inputs out0' x')
    (hq : x.st.pool = []) (hno : ¬ Leftover x.st) (hq' : x'.st.pool = []) (hno' : ¬ Leftover x'.st) :
    (∀ f, f ∈ x.st.dm.fin ↔ f ∈ x'.st.dm.fin) ∧ ∀ f ∈ x.st.dm.fin, x.outp f = x'.outp f := by
  have hset : ∀ f, f ∈ x.st.dm.fin ↔ f ∈ x'.st.dm.fin := fun f =>
    (success_fin_eq_closure w inputs x.st (wreach_reach h) hq hno f).trans
      (success_fin_eq_closure w inputs x'.st (wreach_reach h') hq' hno' f).symm
  refine ⟨hset, fun f hf => ?_⟩
  -- the sequential values of the second run solve the equations on the finished files of the first
  rw [wreach_finOut_seq hR h' f ((hset f).1 hf)]
  exact wreach_finOut hR h _ (fun g hg => reach_seqVal hR (wreach_reach h') g ((hset g).1 hg)) f hf

/-- a verify world over existing outputs `E`: the (final) pass of `f` fails exactly when the
    existing output differs from the fresh output computed from the existing outputs of its
    dependencies; nothing else fails -/
structure VerifyWorld (w : World) (R : Sem C) (E : File → C) : Prop where
  failFinal : ∀ f, w.failFinal f = true ↔ E f ≠ R.render f E
  failFirst : ∀ f, w.failFirst f = false

end Coord
