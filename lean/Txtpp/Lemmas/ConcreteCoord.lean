import Txtpp.Lemmas.FreeWorld
import Txtpp.Lemmas.PmInv
import Txtpp.Lemmas.Interning
import Txtpp.Lemmas.LoopStep
/-! The concrete run (the coordinator driven with real passes over the model file system, in any delivery
    order) is an execution of the abstract coordinator with free results, hence of a static world:
    the theorems about `Coord.Reach` apply to it. First consequence: it never panics. The hypothesis carried along,
    `∀ x ∈ st.seen, x < names.length` (`hB`), says that every file index the coordinator has seen is an index into the
    name table; it gives the budget in terms of names (`freach_budget_names`) and ties `remaining` to `Coord.Leftover`
    (`remaining_eq_true`). -/
namespace Txt
open Coord (FReach WellTyped)

theorem resultOf_typed {names names' : List Path} {f : Coord.File} {first : Bool} {oc : Outcome} {r : Coord.Res}
    (hoc : ∀ deps, oc = .hasDeps deps → first = true ∧ deps ≠ []) (h : resultOf names f oc = some (names', r)) :
    WellTyped (.pp f first) r ∧ names.length ≤ names'.length ∧ ∀ a ds, r = .hasDeps a ds → ∀ x ∈ ds, x < names'.length := by
  cases oc with
  | err => cases h
  | ok => cases h; exact ⟨by simp [WellTyped], Nat.le_refl _, nofun⟩
  | hasDeps deps =>
    cases h
    obtain ⟨rfl, hne⟩ := hoc deps rfl
    exact ⟨⟨rfl, indexAll_ne_nil (by simpa using hne)⟩, indexAll_names_le, fun a ds he => by cases he; exact indexAll_bound⟩

theorem deliver_freach {inputs : List Coord.File} {names : List Path} {st : Coord.St} {h : List (Coord.Task × Coord.Res)}
    {f : Coord.File} {first : Bool} {oc : Outcome} (hF : FReach inputs st h) (hB : ∀ x ∈ st.seen, x < names.length)
    (hmem : Coord.Task.pp f first ∈ st.pool) (hoc : ∀ deps, oc = .hasDeps deps → first = true ∧ deps ≠ []) :
    match deliver names { st with pool := st.pool.erase (.pp f first) } f oc with
    | .inl v => v = .err
    | .inr (names', st', r) => FReach inputs st' (h ++ [(.pp f first, r)]) ∧ ∀ x ∈ st'.seen, x < names'.length := by
  unfold deliver
  cases hr : resultOf names f oc with
  | none => rfl
  | some nr =>
    obtain ⟨hty, hle, hds⟩ := resultOf_typed hoc hr
    simp only
    cases hh : Coord.handle { st with pool := st.pool.erase (.pp f first) } nr.2 with
    | fail => rfl
    | panic => exact absurd hh (Coord.freach_never_panics inputs st h hF _ _ hmem hty)
    | cont st' =>
      refine ⟨FReach.step st st' h _ _ hF hmem hty hh, fun x hx => ?_⟩
      rcases Coord.handle_seen hh x hx with h1 | ⟨a, ds, he, hx'⟩
      · exact Nat.lt_of_lt_of_le (hB x h1) hle
      · exact hds a ds he x hx'

theorem runSched_spec (cfg : Cfg) (inputs : List Coord.File) : ∀ (fuel : Nat) (choices : List Nat) (s : PSt)
    (h : List (Coord.Task × Coord.Res)) {v : Verdict} {s' : PSt} {h' : List (Coord.Task × Coord.Res)},
    runSched cfg choices fuel s h = (v, s', h') → FReach inputs s.st h → (∀ f ∈ s.st.seen, f < s.names.length) →
    FReach inputs s'.st h' ∧ (∀ f ∈ s'.st.seen, f < s'.names.length) ∧ v ≠ .panic ∧
    (v = .ok → s'.st.pool = [] ∧ remaining s' = false) ∧ (v = .circular → s'.st.pool = [] ∧ remaining s' = true) ∧
    (v = .outOfFuel → h'.length = h.length + fuel) := by
  intro fuel
  induction fuel with
  | zero => intro choices s h v s' h' he hF hB; cases he; exact ⟨hF, hB, nofun, nofun, nofun, fun _ => rfl⟩
  | succ fuel ih =>
    intro choices s h v s' h' he hF hB
    by_cases hp : s.st.pool = []
    · rw [runSched_nil hp] at he; cases he
      cases remaining s
      · exact ⟨hF, hB, nofun, fun _ => ⟨hp, rfl⟩, nofun, nofun⟩
      · exact ⟨hF, hB, nofun, nofun, fun _ => ⟨hp, rfl⟩, nofun⟩
    · obtain ⟨f, first, hmem, heq⟩ := runSched_cons cfg choices fuel s h hp
      have hd := deliver_freach hF hB hmem (runPass_hasDeps cfg s.fs (s.names.getD f []) first)
      rw [heq rfl] at he
      cases hdl : deliver s.names { s.st with pool := s.st.pool.erase (.pp f first) } f (runPass cfg s.fs (s.names.getD f []) first).1 with
      | inl v0 =>
        rw [hdl] at hd he; cases he; cases hd
        exact ⟨hF, hB, nofun, nofun, nofun, nofun⟩
      | inr x =>
        rw [hdl] at hd he
        obtain ⟨i1, i2, i3, i4, i5, i6⟩ := ih _ _ _ he hd.1 hd.2
        exact ⟨i1, i2, i3, i4, i5, fun hv => by rw [i6 hv, List.length_append, List.length_singleton]; omega⟩

theorem projStart_spec {cfg : Cfg} {fs : FS} {inputs : List Str} {s : PSt} (h : projStart cfg fs inputs = some s) :
    FReach (projIdx cfg fs inputs) s.st [] ∧ ∀ f ∈ s.st.seen, f < s.names.length := by
  unfold projStart at h; unfold projIdx
  cases hres : resolveInputs cfg fs inputs with
  | none => rw [hres] at h; cases h
  | some fd =>
    rw [hres] at h; cases h
    refine ⟨FReach.init, fun f hf => ?_⟩
    rcases Coord.mem_execFiles_seen.1 hf with h1 | ⟨_, h1⟩
    · cases h1
    · exact indexAll_bound f h1

theorem runProjectSched_spec {cfg : Cfg} {ch : List Nat} {fs : FS} {inputs : List Str} {v : Verdict} {idx : List Coord.File}
    {s : PSt} {hist : List (Coord.Task × Coord.Res)} (ht : runProjectSched cfg ch fs inputs = some (v, idx, s, hist)) :
    FReach idx s.st hist ∧ (∀ f ∈ s.st.seen, f < s.names.length) ∧ v ≠ .panic ∧
    (v = .ok → s.st.pool = [] ∧ remaining s = false) ∧ (v = .circular → s.st.pool = [] ∧ remaining s = true) ∧
    (v = .outOfFuel → hist.length = projFuel fs) := by
  rw [runProjectSched_eq] at ht
  cases hs : projStart cfg fs inputs with
  | none => rw [hs] at ht; cases ht
  | some s0 =>
    simp only [hs, Option.map_some, Option.some.injEq, Prod.mk.injEq] at ht
    obtain ⟨h1, rfl, h2, h3⟩ := ht
    obtain ⟨hF, hB⟩ := projStart_spec hs
    obtain ⟨i1, i2, i3, i4, i5, i6⟩ := runSched_spec cfg _ (projFuel fs) ch s0 []
      (Prod.ext h1 (Prod.ext h2 h3)) hF hB
    exact ⟨i1, i2, i3, i4, i5, fun hv => (i6 hv).trans (Nat.zero_add _)⟩

/-- the whole run never panics (C18 / C03 for the concrete model of `Txtpp::run`: the `unwrap` in
    `notify_finish` and the coordinator's bookkeeping, with results that depend on the file system) -/
theorem runProject_never_panics (cfg : Cfg) (fs : FS) (inputs : List Str) : (runProject cfg fs inputs).1 ≠ .panic := by
  rw [runProject_eq]
  cases hs : projStart cfg fs inputs with
  | none => simp
  | some s0 =>
    obtain ⟨hF, hB⟩ := projStart_spec hs
    exact (runSched_spec cfg _ _ [] s0 [] (runSched_oldest cfg _ s0 []).1 hF hB).2.2.1

end Txt
