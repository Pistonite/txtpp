import Txtpp.Lemmas.ConcreteCoord
import Txtpp.Lemmas.Hermetic
/-! What the verdicts of the concrete run mean (C03, C05, C18): for every delivery order (`runSched`), and, as the
    instance "always the oldest", for the reference run and its trace (`runLoopT`, `runProjectT`). -/
namespace Txt
open Coord (FReach)

theorem freach_budget_names {idx : List Coord.File} {s : PSt} {hist : List (Coord.Task × Coord.Res)}
    (hF : FReach idx s.st hist) (hB : ∀ f ∈ s.st.seen, f < s.names.length) : hist.length ≤ 2 * s.names.length := by
  have hbud := Coord.freach_budget _ _ _ hF
  obtain ⟨w, _, _, _, _, hI⟩ := Coord.freach_static _ _ _ hF
  have hseen := hI.seenND.length_le_of_subset (l₂ := List.range s.names.length) fun x hx => List.mem_range.2 (hB x hx)
  rw [List.length_range] at hseen
  omega

theorem quiescent_complete {idx : List Coord.File} {s : PSt} {hist : List (Coord.Task × Coord.Res)}
    (hF : FReach idx s.st hist) (hB : ∀ f ∈ s.st.seen, f < s.names.length) (hq : s.st.pool = []) (hnr : remaining s = false) :
    (∀ i ∈ idx, i ∈ s.st.seen) ∧
    (∀ f ∈ s.st.seen, ∃ b, (Coord.Task.pp f b, Coord.Res.ok f) ∈ hist) ∧
    (∀ f deps, (Coord.Task.pp f true, Coord.Res.hasDeps f deps) ∈ hist → ∀ d ∈ deps, d ∈ s.st.seen) := by
  obtain ⟨w, hw, hH, _, hR, hI⟩ := Coord.freach_static _ s.st hist hF
  have hno : ¬ Coord.Leftover s.st := fun ⟨d, a, ha⟩ =>
    Bool.false_ne_true (hnr ▸ (remaining_eq_true s).2 ⟨d, hB d (hI.edge d a ha).2.2.1, a, ha⟩)
  have hfin := Coord.success_all_finished w _ s.st hR hq hno
  refine ⟨Coord.inputs_seen w _ s.st hR, fun f hf => hH.finHist f (hfin f hf), fun f deps hm d hd => ?_⟩
  exact hI.finSeen d (hI.finDeps f (hfin f (hH.first f _ hm).1) d ((Coord.result_hasDeps (hw _ _ hm)).2.1 ▸ hd))

theorem quiescent_cycle {idx : List Coord.File} {s : PSt} {hist : List (Coord.Task × Coord.Res)}
    (hF : FReach idx s.st hist) (hq : s.st.pool = []) (hr : remaining s = true) :
    ∃ w : Coord.World, (∀ t r, (t, r) ∈ hist → w.result t = r) ∧
      ∃ f, (∃ d, f ∈ s.st.dm.inE d) ∧ Coord.ReachesCycle w.deps f := by
  obtain ⟨w, hR, hw⟩ := Coord.freach_reach _ s.st hist hF
  obtain ⟨d, _, a, ha⟩ := (remaining_eq_true s).1 hr
  exact ⟨w, hw, a, ⟨d, ha⟩, Coord.waiting_reaches_cycle w _ s.st hR hq a ⟨d, ha⟩⟩

/-- every delivery order (C03/C05/C18, concrete passes): whichever task of the pool is run and delivered next,
    the run never reaches the coordinator's panic branch; a verdict `ok` means every file the coordinator heard
    of completed a pass that ended `ok`; a verdict `circular` is justified by a cycle among the dependency lists
    this very run reported; and no order delivers more than two passes per file named, each task once -/
theorem every_delivery_order (cfg : Cfg) (choices : List Nat) (fs : FS) (inputs : List Str) (v : Verdict) (idx : List Coord.File)
    (s : PSt) (hist : List (Coord.Task × Coord.Res)) (ht : runProjectSched cfg choices fs inputs = some (v, idx, s, hist)) :
    FReach idx s.st hist ∧ v ≠ .panic ∧
    (v = .ok → s.st.pool = [] ∧ (∀ i ∈ idx, i ∈ s.st.seen) ∧
      (∀ f ∈ s.st.seen, ∃ b, (Coord.Task.pp f b, Coord.Res.ok f) ∈ hist) ∧
      (∀ f deps, (Coord.Task.pp f true, Coord.Res.hasDeps f deps) ∈ hist → ∀ d ∈ deps, d ∈ s.st.seen)) ∧
    (v = .circular → s.st.pool = [] ∧ ∃ w : Coord.World, (∀ t r, (t, r) ∈ hist → w.result t = r) ∧
      ∃ f, (∃ d, f ∈ s.st.dm.inE d) ∧ Coord.ReachesCycle w.deps f) ∧
    hist.length ≤ 2 * s.names.length ∧ (hist.map Prod.fst).Nodup := by
  obtain ⟨hF, hB, hp, hok, hc, _⟩ := runProjectSched_spec ht
  refine ⟨hF, hp, fun hv => ?_, fun hv => ⟨(hc hv).1, quiescent_cycle hF (hc hv).1 (hc hv).2⟩,
    freach_budget_names hF hB, Coord.freach_each_task_once hF⟩
  exact ⟨(hok hv).1, quiescent_complete hF hB (hok hv).1 (hok hv).2⟩

/-- the traced loop is the loop: same final file system; it is an execution of the coordinator with free
    results; and the verdict says where it stopped -/
theorem runLoopT_spec (cfg : Cfg) (inputs : List Coord.File) : ∀ (fuel : Nat) (s : PSt) (h : List (Coord.Task × Coord.Res)),
    FReach inputs s.st h → (∀ f ∈ s.st.seen, f < s.names.length) →
    FReach inputs (runLoopT cfg fuel s h).1.st (runLoopT cfg fuel s h).2 ∧
    (∀ f ∈ (runLoopT cfg fuel s h).1.st.seen, f < (runLoopT cfg fuel s h).1.names.length) ∧
    (runLoopT cfg fuel s h).1.fs = (runLoop cfg fuel s).2 ∧
    ((runLoop cfg fuel s).1 = .ok → (runLoopT cfg fuel s h).1.st.pool = [] ∧ remaining (runLoopT cfg fuel s h).1 = false) ∧
    ((runLoop cfg fuel s).1 = .circular → (runLoopT cfg fuel s h).1.st.pool = [] ∧ remaining (runLoopT cfg fuel s h).1 = true) ∧
    ((runLoop cfg fuel s).1 = .outOfFuel → (runLoopT cfg fuel s h).2.length = h.length + fuel) := by
  intro fuel s h hF hB
  have hs := runSched_spec cfg inputs fuel [] s h (runSched_oldest cfg fuel s h).1 hF hB
  exact ⟨hs.1, hs.2.1, (runSched_oldest cfg fuel s h).2, hs.2.2.2⟩

theorem runProjectT_sched {cfg : Cfg} {fs : FS} {inputs : List Str} {idx : List Coord.File} {s : PSt}
    {hist : List (Coord.Task × Coord.Res)} (ht : runProjectT cfg fs inputs = some (idx, s, hist)) :
    runProjectSched cfg [] fs inputs = some ((runProject cfg fs inputs).1, idx, s, hist) ∧ s.fs = (runProject cfg fs inputs).2 := by
  rw [runProjectT_eq] at ht
  rw [runProjectSched_eq, runProject_eq]
  cases hs : projStart cfg fs inputs with
  | none => rw [hs] at ht; cases ht
  | some s0 =>
    simp only [hs, Option.map_some, Option.some.injEq, Prod.mk.injEq] at ht
    obtain ⟨rfl, rfl, rfl⟩ := ht
    simp only [Option.map_some, (runSched_oldest cfg (projFuel fs) s0 []).1]
    exact ⟨trivial, (runSched_oldest cfg (projFuel fs) s0 []).2⟩

theorem runProjectT_freach (cfg : Cfg) (fs : FS) (inputs : List Str) (idx : List Coord.File) (s : PSt)
    (hist : List (Coord.Task × Coord.Res)) (ht : runProjectT cfg fs inputs = some (idx, s, hist)) :
    FReach idx s.st hist ∧ (∀ f ∈ s.st.seen, f < s.names.length) ∧ s.fs = (runProject cfg fs inputs).2 ∧
    ((runProject cfg fs inputs).1 = .outOfFuel → hist.length = projFuel fs) := by
  obtain ⟨hs, hfs⟩ := runProjectT_sched ht
  obtain ⟨hF, hB, _, _, _, hfuel⟩ := runProjectSched_spec hs
  exact ⟨hF, hB, hfs, hfuel⟩

/-- every run that resolves its inputs has a trace -/
theorem runProjectT_some (cfg : Cfg) (fs : FS) (inputs : List Str) (h : (runProject cfg fs inputs).1 ≠ .err) :
    ∃ idx s hist, runProjectT cfg fs inputs = some (idx, s, hist) := by
  rw [runProject_eq] at h; rw [runProjectT_eq]
  cases hs : projStart cfg fs inputs with
  | none => rw [hs] at h; exact absurd rfl h
  | some s0 => exact ⟨_, _, _, rfl⟩

end Txt
