import Txtpp.Lemmas.PassRel
import Txtpp.Lemmas.TouchScope
import Txtpp.Lemmas.RunPassFacts
/-! One `preprocess` call from two agreeing file systems: the relational pass theorem of `PassRel.lean`
    between opening and closing the output. All variants (build or only-if-needed build on either side,
    first-pass aware or not) share `srcPass_core` (the line loops) and `closePass_rel` (closing the output); up to
    opening the output the plain forms go through `runPass_pair`, the first-pass aware ones (`PassRelF.lean`) through
    `runPass_nosrc` / `runPass_eq`, because their conclusions are conjunctions. `runPass_rel` is the plain form of C08
    and has the one-source consequences: leftovers at generated paths are irrelevant, building twice
    equals building once. -/
namespace Txt
open Refine (Block)
variable {W : Type}

/-! what a pass computes does not depend on which of build, only-if-needed build, verify it is (up to `srcPass_mode`) -/

theorem execDirective_mode (Wd : World W) (m m' : Mode) (hm : m ≠ .clean) (hm' : m' ≠ .clean) (le : Str) (s : PpState W)
    (d : Directive) : execDirective Wd m le s d = execDirective Wd m' le s d := by
  rw [execDirective_eq Wd m hm, execDirective_eq Wd m' hm']

theorem txtppSem_mode (Wd : World W) (m m' : Mode) (hm : m ≠ .clean) (hm' : m' ≠ .clean) (le : Str) :
    txtppSem Wd m le = txtppSem Wd m' le := by
  unfold txtppSem
  congr 1
  · funext l; simp only [hm, hm', decide_false, Bool.false_and]
  · funext s d; exact execDirective_mode Wd m m' hm hm' le s d

theorem ppPass_mode (Wd : World W) (m m' : Mode) (hm : m ≠ .clean) (hm' : m' ≠ .clean) (le : Str) (first trailing : Bool)
    (w : W) (lines : List Str) (readOk : Bool) :
    ppPass Wd m le first trailing w lines readOk = ppPass Wd m' le first trailing w lines readOk := by
  have e : ∀ m : Mode, m ≠ .clean → (m != .clean) = true := fun m h => by simpa using h
  unfold ppPass
  rw [txtppSem_mode Wd m m' hm hm', e m hm, e m' hm']

theorem srcBlocks_mode (m m' : Mode) (hm : m ≠ .clean) (hm' : m' ≠ .clean) (lines : List Str) :
    srcBlocks m lines = srcBlocks m' lines := by
  unfold srcBlocks
  rw [txtppSem_mode nullWorld m m' hm hm']

theorem execDirective_needed (Wd : World W) (le : Str) (s : PpState W) (d : Directive) :
    execDirective Wd .inMemory le s d = execDirective Wd .build le s d :=
  execDirective_mode Wd _ _ (by decide) (by decide) le s d

theorem execDirective_verify (Wd : World W) (le : Str) (s : PpState W) (d : Directive) :
    execDirective Wd .verify le s d = execDirective Wd .build le s d :=
  execDirective_mode Wd _ _ (by decide) (by decide) le s d

theorem srcBlocks_needed (lines : List Str) : srcBlocks .inMemory lines = srcBlocks .build lines :=
  srcBlocks_mode _ _ (by decide) (by decide) lines

/-- the only-if-needed configuration that goes with a build configuration -/
def Cfg.toNeeded (cfg : Cfg) : Cfg := { cfg with mode := .inMemory }

def Cfg.toVerify (cfg : Cfg) : Cfg := { cfg with mode := .verify }

theorem srcPass_mode (cfg : Cfg) (m2 : Mode) (hm : cfg.mode ≠ .clean) (hm2 : m2 ≠ .clean) (src : Path) (first : Bool)
    (content : ByteArray) (fs1 : FS) : srcPass { cfg with mode := m2 } src first content fs1 = srcPass cfg src first content fs1 := by
  unfold srcPass
  rw [fileWorld_congr cfg { cfg with mode := m2 } rfl rfl]
  exact ppPass_mode _ m2 cfg.mode hm2 hm ..

/-- the line loops of two passes over the same source, of kinds `cfg.mode` and `m2` -/
theorem srcPass_core (aware : Bool) (cfg : Cfg) (m2 : Mode)
    (hm : cfg.mode ≠ .clean) (hm2 : m2 ≠ .clean) (src : Path) (first : Bool) (content : ByteArray)
    {fs0 a1 b1 : FS} {S1 Sfin : List Path} {bs : List (Block Directive)}
    (hbs : srcBlocks cfg.mode (decodeLines (byteLines content.toList)).1 = some bs) (hag : Agree S1 a1 b1) (hd : a1.dirs = fs0.dirs)
    (hfr : aware = true → Agree S1 fs0 a1 ∧ WritesIn cfg fs0 src.dropLast S1 bs)
    (hsafe : SafeTo cfg fs0 src.dropLast (aware && first) bs S1 Sfin)
    (hprobes : ProbesOK cfg fs0 src.dropLast S1 bs) :
    PassResRel fs0 S1 Sfin (srcPass cfg src first content a1) (srcPass { cfg with mode := m2 } src first content b1) := by
  rw [srcPass_mode cfg m2 hm hm2]
  exact ppPass_core aware cfg _ _ cfg.mode hm _ first cfg.trailing _ hbs hd hag hfr hsafe hprobes

theorem ne_clean {m : Mode} (h : m = .build ∨ m = .inMemory) : m ≠ .clean := by
  rcases h with rfl | rfl <;> decide

/-- closing the output after two line loops with related results, build or only-if-needed build on either
    side (two kinds only where the output path is no directory): the same outcome, agreement outside `S1`
    afterwards, and after an `ok` pass outside what is then still stale, which the output is not -/
theorem closePass_rel (m1 m2 : Mode) (h1 : m1 = .build ∨ m1 = .inMemory) (h2 : m2 = .build ∨ m2 = .inMemory) (o : Path)
    {fs0 a1 b1 : FS} {S1 Sfin : List Path} {ra rb : PassResult FS} (hrel : PassResRel fs0 S1 Sfin ra rb)
    (hag : Agree S1 a1 b1) (hd : a1.dirs = fs0.dirs) (hdir : m1 = m2 ∨ a1.isDir o = false) :
    (closePass m1 o a1 ra).1 = (closePass m2 o b1 rb).1 ∧ Agree S1 (closePass m1 o a1 ra).2 (closePass m2 o b1 rb).2 ∧
    ((closePass m1 o a1 ra).1 = .ok → Agree (Sfin.filter (· != o)) (closePass m1 o a1 ra).2 (closePass m2 o b1 rb).2) := by
  rcases hrel.cases with ⟨rfl, rfl⟩ | ⟨deps, a2, b2, rfl, rfl, _, h⟩ | ⟨out, a2, b2, rfl, rfl, hda2, hS, hF⟩
  · exact ⟨rfl, hag, fun h => by cases h⟩
  · exact ⟨rfl, h, fun h => by cases h⟩
  · have hdir2 : m1 = m2 ∨ a2.isDir o = false := hdir.imp id (fun h => (isDir_dirs (hda2.trans hd.symm) o).trans h)
    obtain ⟨e1, e2⟩ := sinkEnd_rel m1 m2 h1 h2 a2 b2 o (encodeUtf8 out) hdir2 hS.1
    exact ⟨e1, (e2 S1 hS).1, (e2 Sfin hF).2⟩

/-- a source has one content, one output path and one list of blocks: what holds of them holds of any -/
theorem src_unique {a : FS} {src : Path} {m : Mode} {content : ByteArray} {o : Path} {bs : List (Block Directive)}
    {P : ByteArray → Path → List (Block Directive) → Prop} (hfile : a.file? src = some content) (hout : outputPath src = some o)
    (hbs : srcBlocks m (decodeLines (byteLines content.toList)).1 = some bs) (h : P content o bs) :
    ∀ content' o' bs', a.file? src = some content' → outputPath src = some o' →
      srcBlocks m (decodeLines (byteLines content'.toList)).1 = some bs' → P content' o' bs' := by
  intro c' o' bs' hc' ho' hb'
  cases hfile.symm.trans hc'; cases hout.symm.trans ho'; cases hbs.symm.trans hb'
  exact h

/-- the two runs of a pass over a source that is not stale: both fail at once (the source cannot be read or
    has no txtpp name), or both get as far as opening the output -/
theorem runPass_pair (cfg cfg2 : Cfg) {S : List Path} {a b : FS} (src : Path) (first : Bool) (hag : Agree S a b) (hsrc : src ∉ S) :
    (runPass cfg a src first = (.err, a) ∧ runPass cfg2 b src first = (.err, b)) ∨
    ∃ content o, a.file? src = some content ∧ outputPath src = some o ∧
      runPass cfg a src first = runPassAt cfg a src first content o ∧
      runPass cfg2 b src first = runPassAt cfg2 b src first content o := by
  unfold runPass
  rw [← hag.2 src hsrc]
  cases hfile : a.file? src with
  | none => exact Or.inl ⟨rfl, rfl⟩
  | some content =>
    cases hout : outputPath src with
    | none => exact Or.inl ⟨rfl, rfl⟩
    | some o => exact Or.inr ⟨content, o, rfl, rfl, rfl, rfl⟩

/-- **C08, one pass**: a build (or only-if-needed build) pass over `src` run from two file systems
    that agree outside the stale set `S` (what earlier or interrupted runs left behind: anything or
    nothing at those paths) gives the same verdict, and afterwards the two file systems agree outside
    what is still stale — which no longer contains the output path nor any temp target that was
    written — provided the source itself is not stale and no block reads a path while it is stale. -/
theorem runPass_rel (cfg : Cfg) (hm : cfg.mode = .build ∨ cfg.mode = .inMemory) (a b : FS) (S : List Path) (src : Path) (first : Bool)
    (hag : Agree S a b) (hsrc : src ∉ S)
    (hsafe : ∀ content o bs, a.file? src = some content → outputPath src = some o →
      srcBlocks cfg.mode (decodeLines (byteLines content.toList)).1 = some bs →
      Safe cfg a src.dropLast bs (staleOpen cfg.mode S o) ∧ ProbesOK cfg a src.dropLast (staleOpen cfg.mode S o) bs) :
    (runPass cfg a src first).1 = (runPass cfg b src first).1 ∧
    Agree S (runPass cfg a src first).2 (runPass cfg b src first).2 ∧
    ((runPass cfg a src first).1 = .ok → ∀ content o bs, a.file? src = some content → outputPath src = some o →
      srcBlocks cfg.mode (decodeLines (byteLines content.toList)).1 = some bs →
      Agree ((staleAfter cfg a src.dropLast bs (staleOpen cfg.mode S o)).filter (· != o))
        (runPass cfg a src first).2 (runPass cfg b src first).2) := by
  rcases runPass_pair cfg cfg src first hag hsrc with ⟨ea, eb⟩ | ⟨content, o, hfile, hout, ea, eb⟩ <;> rw [ea, eb]
  · exact ⟨rfl, hag, fun h => by cases h⟩
  rw [runPassAt_eq, runPassAt_eq]
  have hsub := staleOpen_sub cfg.mode S o
  rcases sinkStart_rel cfg.mode hm S a b o hag with ⟨n1, n2⟩ | ⟨a1, b1, ha, hb, hda, hag1⟩
  · rw [n1, n2]; exact ⟨rfl, hag, fun h => by cases h⟩
  rw [ha, hb]
  dsimp only
  cases hbs : srcBlocks cfg.mode (decodeLines (byteLines content.toList)).1 with
  | none =>
    rw [srcPass_parse_none cfg src first content a1 hbs, srcPass_parse_none cfg src first content b1 hbs]
    exact ⟨rfl, hag1.mono hsub, fun h => by cases h⟩
  | some bs =>
    obtain ⟨hsf, hpr⟩ := hsafe content o bs hfile hout hbs
    obtain ⟨r1, r2, r3⟩ := closePass_rel cfg.mode cfg.mode hm hm o
      (srcPass_core false cfg cfg.mode (ne_clean hm) (ne_clean hm) src first content
        hbs hag1 hda (fun h => nomatch h) ((safeTo_false_iff ..).2 ⟨hsf, rfl⟩) hpr) hag1 hda (Or.inl rfl)
    exact ⟨r1, r2.mono hsub, fun hok => src_unique hfile hout hbs (r3 hok)⟩

/-- **C08 headline, one pass**: if the two file systems differ only at paths this very pass generates
    (its output, its temp targets — holding stale text, truncated content, arbitrary bytes, or
    nothing), the verdicts are equal and after a pass that ends `ok` the two file systems hold the same
    bytes at *every* path. -/
theorem runPass_leftovers_irrelevant (cfg : Cfg) (hm : cfg.mode = .build ∨ cfg.mode = .inMemory) (a b : FS) (S : List Path)
    (src : Path) (first : Bool) (content : ByteArray) (o : Path) (bs : List (Block Directive))
    (hfile : a.file? src = some content) (hout : outputPath src = some o)
    (hbs : srcBlocks cfg.mode (decodeLines (byteLines content.toList)).1 = some bs)
    (hag : Agree S a b) (hsrc : src ∉ S) (hgen : ∀ p ∈ S, p ∈ generated cfg a src.dropLast o bs)
    (hsafe : Safe cfg a src.dropLast bs (staleOpen cfg.mode S o)) (hprobes : ProbesOK cfg a src.dropLast (staleOpen cfg.mode S o) bs) :
    (runPass cfg a src first).1 = (runPass cfg b src first).1 ∧
    ((runPass cfg a src first).1 = .ok → ∀ q, (runPass cfg a src first).2.file? q = (runPass cfg b src first).2.file? q) := by
  have h := runPass_rel cfg hm a b S src first hag hsrc (src_unique hfile hout hbs ⟨hsafe, hprobes⟩)
  exact ⟨h.1, fun hok q => (h.2.2 hok content o bs hfile hout hbs).2 q
    (not_mem_stale_end (fun p hp => hgen p (staleOpen_sub cfg.mode S o p hp)) q)⟩

/-- **building twice equals building once (one source)**: after a build pass that ended `ok`, a second
    build pass of the same source ends `ok` and leaves every path exactly as the first one left it -/
theorem runPass_idempotent (cfg : Cfg) (hm : cfg.mode = .build ∨ cfg.mode = .inMemory) (a a' : FS) (src : Path) (first : Bool)
    (content : ByteArray) (o : Path) (bs : List (Block Directive))
    (hfile : a.file? src = some content) (hout : outputPath src = some o)
    (hbs : srcBlocks cfg.mode (decodeLines (byteLines content.toList)).1 = some bs)
    (hsrc : src ∉ generated cfg a src.dropLast o bs)
    (hsafe : Safe cfg a src.dropLast bs (staleOpen cfg.mode (generated cfg a src.dropLast o bs) o))
    (hprobes : ProbesOK cfg a src.dropLast (staleOpen cfg.mode (generated cfg a src.dropLast o bs) o) bs)
    (h1 : runPass cfg a src first = (.ok, a')) :
    (runPass cfg a' src first).1 = .ok ∧ ∀ q, (runPass cfg a' src first).2.file? q = a'.file? q := by
  -- the tree after the first build differs from the one before at generated paths only (`runPass_scope`): the second
  -- build is a build from leftovers
  have hsc := runPass_scope cfg a src first
  rw [h1] at hsc
  have hag : Agree (generated cfg a src.dropLast o bs) a a' :=
    ⟨hsc.1.symm, fun q hq => (hsc.2.2 q (fun hpa => hq (passAllowed_generated cfg a src content o bs hfile hout hbs q hpa))).symm⟩
  have h := runPass_leftovers_irrelevant cfg hm a a' _ src first content o bs hfile hout hbs hag hsrc (fun _ hp => hp) hsafe hprobes
  rw [h1] at h
  exact ⟨h.1.symm, fun q => (h.2 rfl q).symm⟩

/-- where the executable check answers `true`, building twice equals building once -/
theorem idempotent_where_checked (cfg : Cfg) (hm : cfg.mode = .build ∨ cfg.mode = .inMemory) (a a' : FS) (src : Path)
    (first : Bool) (hs : srcSafeB cfg a src = some true) (h1 : runPass cfg a src first = (.ok, a')) :
    (runPass cfg a' src first).1 = .ok ∧ ∀ q, (runPass cfg a' src first).2.file? q = a'.file? q := by
  obtain ⟨content, o, bs, hfile, hout, hbs, hsrc, hsafe, hprobes⟩ := srcSafeB_spec cfg a src hs
  exact runPass_idempotent cfg hm a a' src first content o bs hfile hout hbs hsrc
    (hsafe.mono (staleOpen_sub cfg.mode _ o)) (hprobes.mono (staleOpen_sub cfg.mode _ o)) h1

/-- … and leftovers at the generated paths are irrelevant -/
theorem leftovers_where_checked (cfg : Cfg) (hm : cfg.mode = .build ∨ cfg.mode = .inMemory) (a b : FS) (src : Path)
    (first : Bool) (hs : srcSafeB cfg a src = some true)
    (hag : ∀ content o bs, a.file? src = some content → outputPath src = some o →
      srcBlocks cfg.mode (decodeLines (byteLines content.toList)).1 = some bs → Agree (generated cfg a src.dropLast o bs) a b) :
    (runPass cfg a src first).1 = (runPass cfg b src first).1 ∧
    ((runPass cfg a src first).1 = .ok → ∀ q, (runPass cfg a src first).2.file? q = (runPass cfg b src first).2.file? q) := by
  obtain ⟨content, o, bs, hfile, hout, hbs, hsrc, hsafe, hprobes⟩ := srcSafeB_spec cfg a src hs
  exact runPass_leftovers_irrelevant cfg hm a b _ src first content o bs hfile hout hbs (hag content o bs hfile hout hbs) hsrc
    (fun _ hp => hp) (hsafe.mono (staleOpen_sub cfg.mode _ o)) (hprobes.mono (staleOpen_sub cfg.mode _ o))

end Txt
