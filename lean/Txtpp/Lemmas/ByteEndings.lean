import Txtpp.Lemmas.ByteLines
import Txtpp.Lemmas.LineEnding
/-! C12 on bytes: a text whose only line terminators are `le` encodes to bytes in which 13 / 10 occur only
    as that terminator. -/
namespace Txt

/-- bytes in which 13 and 10 occur only as the pair 13 10 -/
def crlfOnly : List UInt8 → Bool
  | [] => true
  | 13 :: 10 :: r => crlfOnly r
  | 13 :: _ => false
  | 10 :: _ => false
  | _ :: r => crlfOnly r

theorem crlfOnly_clean_append (x r : List UInt8) (h : (10 : UInt8) ∉ x ∧ (13 : UInt8) ∉ x) :
    crlfOnly (x ++ r) = crlfOnly r := by
  induction x with
  | nil => rfl
  | cons b bs ih =>
    have hb10 : b ≠ 10 := fun e => h.1 (by simp [e])
    have hb13 : b ≠ 13 := fun e => h.2 (by simp [e])
    have := ih ⟨fun hm => h.1 (List.mem_cons_of_mem _ hm), fun hm => h.2 (List.mem_cons_of_mem _ hm)⟩
    simp only [List.cons_append]
    rw [crlfOnly]
    · exact this
    · intro r' h _; exact hb13 h
    · intro h; exact hb13 h
    · intro h; exact hb10 h

theorem bytes_crlf_only (out : Str) (h : LEonly ['\r', '\n'] out) : crlfOnly (lineBytes out) = true :=
  LEonly_ind (P := fun s => crlfOnly (lineBytes s) = true) rfl
    (fun a r ha hr => by
      rw [lineBytes_append, crlfOnly_clean_append _ _ ((clean_iff_lineBytes a).1 ha)]; exact hr)
    (fun r hr => by rw [lineBytes_append]; exact hr) h

theorem bytes_lf_only (out : Str) (h : LEonly ['\n'] out) : (13 : UInt8) ∉ lineBytes out :=
  LEonly_ind (P := fun s => (13 : UInt8) ∉ lineBytes s) nofun
    (fun a r ha hr hm => (List.mem_append.1 (lineBytes_append a r ▸ hm)).elim ((clean_iff_lineBytes a).1 ha).2 hr)
    (fun r hr hm => (List.mem_cons.1 (lineBytes_append ['\n'] r ▸ hm)).elim (by decide) hr) h

theorem bytes_one_ending {b : List UInt8} {out : Str} (h : LEonly (sniffLE b) out) :
    (sniffLE b = ['\r', '\n'] ∧ crlfOnly (lineBytes out) = true) ∨ (sniffLE b = ['\n'] ∧ (13 : UInt8) ∉ lineBytes out) := by
  rcases sniffLE_cases b with hl | hl <;> rw [hl] at h
  · exact .inr ⟨hl, bytes_lf_only out h⟩
  · exact .inl ⟨hl, bytes_crlf_only out h⟩

end Txt
