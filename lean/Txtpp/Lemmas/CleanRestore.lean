import Txtpp.Lemmas.TouchScope
import Txtpp.Lemmas.RunPassFacts
/-! C07, pass level: clean sees exactly the directive blocks build saw; a clean pass over a source removes its output
    and every (non-`.txtpp`) temp target of its text, and a successful build pass followed by a clean pass of the same
    source restores every file of a tree in which those paths did not exist. -/
namespace Txt
open Refine (Sem machine parse Block)

theorem parse_clean_eq_build {W : Type} (Wd : World W) (mode : Mode) (hm : mode ≠ .clean) (le : Str) (lines : List Str)
    (cur : Option Directive) (bs : List (Block Directive))
    (h : parse (txtppSem Wd mode le) cur lines = some bs) :
    parse (txtppSem Wd .clean le) cur lines = some bs := by
  -- clean differs in `detect` only, and only at a start that `mode` rejects
  refine Refine.parse_of_accepts (txtppSem Wd mode le) (txtppSem Wd .clean le) rfl ?_ ?_ lines cur bs h
  · intro l d hd hb
    rw [detect_eq, Option.filter_eq_some_iff] at hd ⊢
    exact ⟨⟨hd.1, by simp [show badStart d = false from hb]⟩, hb⟩
  · intro l hd
    rw [detect_eq, Option.filter_eq_none_iff] at hd ⊢
    exact fun d hdl => absurd (hd d hdl) (by simp [hm])

theorem clean_temp_removes (cfg : Cfg) (wd : Path) (src : Str) (le : Str) (s s' : PpState FS) (d : Directive)
    (o : Option Str) (t : Str) (body : List Str) (p : Path)
    (hty : d.ty = .temp) (hargs : d.args = t :: body) (hnt : isTxtppPath t = false)
    (hres : s.w.resolve cfg wd t = some p)
    (h : execDirective (fileWorld cfg wd src) .clean le s d = some (s', o)) : s'.w.file? p = none := by
  rw [execDirective_clean_temp _ le s d hty hargs hnt] at h
  cases h
  exact removeTemp_absent cfg wd src s.w t p hres

theorem clean_ppPass_removes (cfg : Cfg) (hm : cfg.mode = .clean) (wd : Path) (src : Str) (le : Str) (first trailing : Bool)
    (fs1 fs2 : FS) (lines : List Str) (readOk : Bool) (out : Str) (p : Path)
    (h : ppPass (fileWorld cfg wd src) cfg.mode le first trailing fs1 lines readOk = .ok out fs2)
    (hp : TempTarget cfg fs1 wd lines p) : fs2.file? p = none := by
  rw [hm] at h
  obtain ⟨s, hmach, _, _, rfl⟩ := ppPass_ok_inv h
  obtain ⟨bs, d, e, t, body, hsb, hmem, hty, hargs, hnt, hres⟩ := hp
  -- along the line loop the directories stay, so `t` keeps resolving to `p`; and `p` is absent or the
  -- block `d` is still to come: executing `d` removes `p`, and clean creates nothing afterwards
  have hdirs := (dirs_closed .clean _ fs1).opsPreserve cfg wd src
  refine ((Refine.machine_ind (txtppSem (fileWorld cfg wd src) .clean le)
    (fun rest s => s.w.dirs = fs1.dirs ∧ (s.w.file? p = none ∨ Block.dir d e ∈ rest)) (fun _ => True)
    trivial trivial (fun _ _ _ _ => trivial) ?_ ?_ trailing _ lines ?_ s out hmach).1.2).resolve_right (by simp)
  · intro d' e' rest s s' o hj hx
    refine ⟨⟨execDirective_inv hdirs le s s' d' o hj.1 hx, ?_⟩, fun _ _ => trivial⟩
    rcases hj.2 with hq | hq
    · exact Or.inl (execDirective_inv (removeTemp_creates_nothing cfg wd src p) le s s' d' o hq hx)
    · rcases List.mem_cons.1 hq with heq | hq
      · cases heq
        exact Or.inl (clean_temp_removes cfg wd src le s s' d o t body p hty hargs hnt
          (by rw [resolve_dirs fs1 s.w cfg wd t hj.1]; exact hres) hx)
      · exact Or.inr hq
  · intro l rest s hj
    rw [text_w]
    exact ⟨⟨hj.1, hj.2.imp_right (fun hq => by simpa using hq)⟩, fun _ _ => trivial⟩
  · intro bs' hp'
    rw [parse_eq_srcBlocks, ← hm, hsb] at hp'
    cases hp'; exact ⟨rfl, Or.inr hmem⟩

/-- in clean mode no directive start is rejected, no directive fails and the pass mode never changes: a
    clean pass over a readable source always ends `ok` -/
theorem clean_pass_ok {W : Type} (Wd : World W) (le : Str) (first trailing : Bool) (w : W) (lines : List Str) :
    ∃ out w', ppPass Wd .clean le first trailing w lines true = .ok out w' := by
  obtain ⟨⟨s, out⟩, hmach⟩ := Option.isSome_iff_exists.1 (Refine.machine_total (txtppSem Wd .clean le)
    (fun l d hd => by rw [detect_eq, Option.filter_eq_some_iff] at hd; exact (by simpa using hd.2 : badStart d = false))
    (fun s d => by simp only [txtppSem, execDirective_clean]; rfl) trailing (startState first w) lines)
  have hpm : s.pm.isExecute = true :=
    Refine.machine_inv (txtppSem Wd .clean le) (fun s => s.pm.isExecute = true) trailing _ lines s out
      (fun _ d _ _ _ s s' o hj he => by
        simp only [txtppSem, execDirective_clean, Option.some.injEq, Prod.mk.injEq] at he
        rw [← he.1]; split <;> exact hj)
      (fun s l hj => by rw [text_pm]; exact hj)
      (by cases first <;> rfl) hmach
  refine ⟨out, s.w, ?_⟩
  rw [ppPass_eq, hmach]
  cases hp : s.pm with
  | collect deps => rw [hp] at hpm; cases hpm
  | _ => simp [passResult, hp]

/-- C07: after a clean pass that ended `ok`, neither the output nor any temp target of the source exists -/
theorem clean_runPass_removes (cfg : Cfg) (hm : cfg.mode = .clean) (fs fs' : FS) (src : Path) (first : Bool)
    (h : runPass cfg fs src first = (.ok, fs')) (p : Path) (hp : PassAllowed cfg fs src p) : fs'.file? p = none := by
  obtain ⟨content, o, fs1, out, fs2, hfile, hout, hstart, hpp, hend⟩ := runPass_ok_inv cfg fs src first fs' h
  obtain rfl : fs2 = fs' := by rw [hm] at hend; exact (Prod.ext_iff.1 hend).2
  obtain ⟨c', hf', hsc⟩ := hp
  rw [hfile] at hf'; cases hf'
  rcases hsc with ho | ht
  · rw [hout] at ho; cases ho
    have := ppPass_closed cfg src.dropLast (joinPath src) (sniffLE content.toList) first fs1 fs1 (fun _ => True)
      (fun f => f.file? p = none) (decodeLines (byteLines content.toList)).1 (decodeLines (byteLines content.toList)).2
      (cleanAbsent_closed hm _ p) (fun _ _ => trivial) (sinkStart_clean_absent fs fs1 p (hm ▸ hstart)) rfl
    rw [show ppPass _ _ _ _ _ _ _ _ = _ from hpp] at this
    exact this.1
  · have hd : fs1.dirs = fs.dirs := ((dirs_closed cfg.mode (fun _ => True) fs).sinkStart trivial hstart rfl)
    exact clean_ppPass_removes cfg hm src.dropLast (joinPath src) _ first cfg.trailing fs1 fs2 _ _ out p hpp
      (TempTarget_dirs cfg fs1 fs _ _ p hd.symm ht)

theorem ppPass_ok_parse {W : Type} {Wd : World W} {mode : Mode} {le : Str} {first trailing : Bool} {w : W} {lines : List Str}
    {readOk : Bool} {out : Str} {w' : W} (h : ppPass Wd mode le first trailing w lines readOk = .ok out w') :
    readOk = true ∧ ∃ bs, srcBlocks mode lines = some bs := by
  obtain ⟨s, hmach, _⟩ := ppPass_ok_inv h
  obtain ⟨bs, _, hpar, _⟩ := (Refine.machine_eq_some _ _ _ _ _ _).1 hmach
  exact ⟨ppPass_readOk (by rw [h]; nofun), bs, parse_eq_srcBlocks Wd mode le lines ▸ hpar⟩

/-- the clean configuration that goes with a build configuration -/
def Cfg.toClean (cfg : Cfg) : Cfg := { cfg with mode := .clean }

/-- **C07, one source**: in a tree where neither the output nor any temp target of the source
    exists, a successful build pass followed by a clean pass of the same source succeeds and leaves
    every path with exactly the content it had before the build. -/
theorem build_then_clean_restores (cfg : Cfg) (hb : cfg.mode = .build) (fs fsB : FS) (src : Path) (first first' : Bool)
    (hfresh : ∀ p, PassAllowed cfg fs src p → fs.file? p = none)
    (hbuild : runPass cfg fs src first = (.ok, fsB)) :
    ∃ fsC, runPass cfg.toClean fsB src first' = (.ok, fsC) ∧ ∀ q, fsC.file? q = fs.file? q := by
  obtain ⟨content, o, fs1, out, fs2, hfile, hout, hstart, hpp, hend⟩ := runPass_ok_inv cfg fs src first fsB hbuild
  obtain ⟨hro, bs, hbs⟩ := ppPass_ok_parse hpp
  obtain ⟨hdirs, _, hframeB⟩ : Scope fs (PassAllowed cfg fs src) fsB := by
    have h := runPass_scope cfg fs src first; rwa [hbuild] at h
  -- the source itself is outside the scope, so the build left it alone
  have hsrcB : fsB.file? src = some content := by
    rw [hframeB src (fun ha => by have := hfresh src ha; rw [hfile] at this; cases this)]
    exact hfile
  -- the two passes have the same scope: clean groups the lines as build did, and resolves targets alike
  have hblocks : srcBlocks cfg.toClean.mode (decodeLines (byteLines content.toList)).1 =
      srcBlocks cfg.mode (decodeLines (byteLines content.toList)).1 :=
    (parse_clean_eq_build nullWorld cfg.mode (by rw [hb]; decide) [] _ none bs hbs).trans hbs.symm
  have hscope : ∀ p, PassAllowed cfg.toClean fsB src p ↔ PassAllowed cfg fs src p := by
    intro p
    constructor
    · rintro ⟨c, hc, hs⟩
      rw [hsrcB] at hc; cases hc
      exact ⟨content, hfile, hs.imp id (TempTarget_congr cfg cfg.toClean fs fsB _ _ p hdirs rfl hblocks)⟩
    · rintro ⟨c, hc, hs⟩
      rw [hfile] at hc; cases hc
      exact ⟨content, hsrcB, hs.imp id (TempTarget_congr cfg.toClean cfg fsB fs _ _ p hdirs.symm rfl hblocks.symm)⟩
  -- the clean pass succeeds: the output path is no directory (build opened it) and the source is readable
  have hndB : fsB.isDir o = false := (isDir_dirs hdirs o).trans (sinkStart_build_notDir fs fs1 o (hb ▸ hstart))
  obtain ⟨fsC, hC⟩ : ∃ fsC, runPass cfg.toClean fsB src first' = (.ok, fsC) := by
    obtain ⟨fs1c, hst⟩ := sinkStart_clean_isSome fsB o hndB
    obtain ⟨outc, fs2c, hok⟩ := clean_pass_ok (fileWorld cfg.toClean src.dropLast (joinPath src)) (sniffLE content.toList)
      first' cfg.toClean.trailing fs1c (decodeLines (byteLines content.toList)).1
    refine ⟨fs2c, ?_⟩
    rw [runPass_eq _ _ _ _ content o hsrcB hout, runPassAt_eq, show sinkStart cfg.toClean.mode fsB o = some fs1c from hst]
    simp only [srcPass, hro]
    rw [show ppPass _ cfg.toClean.mode _ _ _ _ _ true = _ from hok]; rfl
  refine ⟨fsC, hC, fun q => ?_⟩
  by_cases hq : PassAllowed cfg fs src q
  · rw [hfresh q hq]
    exact clean_runPass_removes cfg.toClean rfl fsB fsC src first' hC q ((hscope q).2 hq)
  · obtain ⟨_, _, hframeC⟩ : Scope fsB (PassAllowed cfg.toClean fsB src) fsC := by
      have h := runPass_scope cfg.toClean fsB src first'; rwa [hC] at h
    rw [hframeC q (fun ha => hq ((hscope q).1 ha)), hframeB q hq]

end Txt
