import Txtpp.Lemmas.CoordTop
/-!
# Property C04 — no false success: a failure in any file fails the whole run
-/
namespace C04
open Coord

/-- a delivered error ends the run with a failure, whatever else is in flight -/
theorem err_delivered_fails (s : St) : handle s .err = .fail := rfl

/-- the result of a failing pass is an error, wherever the file sits in the graph -/
theorem failing_pass_is_err (w : World) (f : File) :
    (w.failFinal f = true → w.result (.pp f false) = .err) ∧
    (w.failFirst f = true → w.result (.pp f true) = .err) ∧
    (w.deps f = [] → w.failFinal f = true → w.result (.pp f true) = .err) := by
  refine ⟨?_, ?_, ?_⟩
  · exact result_failFinal
  · intro h; by_cases hd : w.deps f = [] <;> simp [World.result, h, hd]
  · intro hd h; simp [World.result, h, hd]

/-- only a non-failing pass of `a` itself reports `ok a` -/
theorem result_ok (w : World) (a b : File) (first : Bool) (h : w.result (.pp a first) = .ok b) :
    b = a ∧ w.failFinal a = false := Coord.result_ok w a b first h

/-- a file whose final pass fails is never finished: in no reachable state (i.e. while no error has
been delivered) is it in the finished set — so a run that reports success cannot contain it -/
theorem failing_never_finished (w : World) (inputs : List File) (s : St) (h : Reach w inputs s) (f : File)
    (hf : w.failFinal f = true) : f ∉ s.dm.fin := Coord.failing_never_finished w inputs s h f hf

/-- success ⇒ every seen file finished (C03) ⇒ none of them fails: a run over a project in which a
required file fails cannot end in a state that reports success -/
theorem fails_required_fails (w : World) (inputs : List File) (s : St) (h : Reach w inputs s) (hq : s.pool = [])
    (hno : ¬ Leftover s) (f : File) (hseen : f ∈ s.seen) : w.failFinal f = false :=
  Bool.eq_false_iff.2 fun hf => failing_never_finished w inputs s h f hf (success_all_finished w inputs s h hq hno f hseen)

end C04
