import Txtpp.Lemmas.ConcreteTrace
import Txtpp.Lemmas.Term
import Txtpp.Lemmas.CoordScanInv
import Txtpp.Lemmas.Hermetic
/-!
# Property C03 — every run terminates and completes each required file exactly once
-/
namespace C03
open Coord

/-- `done == total` (the exit test of the coordinator loop) holds exactly when nothing is in flight -/
theorem exit_iff_nothing_in_flight (w : World) (inputs : List File) (s : St) (h : Reach w inputs s) :
    s.done = s.total ↔ s.pool = [] := exit_iff_pool_nil w inputs s h

/-- no deadlock: whenever a task is in flight, delivering it either ends the run with an error or
is a step of the model — the coordinator never gets stuck with work outstanding -/
theorem no_deadlock (w : World) (inputs : List File) (s : St) (h : Reach w inputs s) (t : Task) (ht : t ∈ s.pool) :
    handle { s with pool := s.pool.erase t } (w.result t) = .fail ∨ ∃ s', Step w s s' :=
  (deliver_cases (reach_inv w inputs s h) ht).imp id fun ⟨s', hc, _⟩ => ⟨s', Step.deliver s s' t ht hc⟩

/-- every delivery is paid for by a file becoming seen or finished: after `n` deliveries
`n + (first passes in flight) ≤ |seen| + |finished|` -/
theorem delivery_budget (w : World) (inputs : List File) (n : Nat) (s : St) (h : ReachN w inputs n s) :
    n + nFirst s.pool ≤ s.seen.length + s.dm.fin.length := Coord.delivery_budget w inputs n s h

/-- termination: with at most `|U|` files ever seen, no execution has more than `2·|U|` deliveries,
under every schedule -/
theorem terminates (w : World) (inputs U : List File) (n : Nat) (s : St) (h : ReachN w inputs n s)
    (hseen : s.seen.length ≤ U.length) : n ≤ 2 * U.length := Coord.terminates w inputs U n s h hseen

/-- termination, closed form: over any finite universe `U` that contains the inputs and is closed
under dependencies, no execution — cyclic or not, any schedule, any thread count — has more than
`2·|U|` deliveries -/
theorem terminates_over_closed_universe (w : World) (inputs U : List File) (hin : ∀ i ∈ inputs, i ∈ U)
    (hcl : ∀ f ∈ U, ∀ d ∈ w.deps f, d ∈ U) (n : Nat) (s : St) (h : ReachN w inputs n s) : n ≤ 2 * U.length :=
  terminates_closed w inputs U hin hcl n s h

/-- only required files are ever processed: every file the coordinator sees is reachable from an
input along dependency edges -/
theorem only_required_files_processed (w : World) (inputs : List File) (s : St) (h : Reach w inputs s) :
    ∀ f ∈ s.seen, ∃ i ∈ inputs, Path w.deps i f := seen_reachable w inputs s h

/-- success means completion: at an exit without leftover (circular) edges every seen file —
every input and everything transitively included — is finished -/
theorem success_complete (w : World) (inputs : List File) (s : St) (h : Reach w inputs s) (hq : s.pool = [])
    (hno : ¬ Leftover s) : ∀ f ∈ s.seen, f ∈ s.dm.fin := success_all_finished w inputs s h hq hno

/-- exactly once: the finished list has no duplicates, a finished file never gets a task again, and
no file ever has two tasks in flight — however often it is named, scanned or required -/
theorem exactly_once (w : World) (inputs : List File) (s : St) (h : Reach w inputs s) :
    s.dm.fin.Nodup ∧ s.seen.Nodup ∧ s.pool.Nodup ∧ (∀ a ∈ s.dm.fin, ∀ b, Task.pp a b ∉ s.pool) :=
  have hI := reach_inv w inputs s h
  ⟨hI.finND, hI.seenND, hI.poolND, finished_is_quiet w inputs s h⟩

/-- the `unwrap` in `notify_finish` cannot fail (a panicking coordinator would never return) -/
theorem coordinator_never_panics (w : World) (inputs : List File) (s : St) (h : Reach w inputs s) (t : Task)
    (ht : t ∈ s.pool) : handle { s with pool := s.pool.erase t } (w.result t) ≠ .panic :=
  never_panics w inputs s h t ht

/-! ### with directory scan tasks (`execute_directory`, the `ScanDir` branch, shared counters) -/

/-- the exit test on the shared done/total counters holds exactly when neither a file task nor a
directory scan is in flight — also when a directory is reached more than once (named twice, or
through a symbolic-link loop; finding F4) -/
theorem exit_iff_idle_with_scans (w : ScanWorld) (files : List File) (ds : List Dir) (x : SSt)
    (h : SReach w files ds x) : x.isDone = true ↔ (x.st.pool = [] ∧ x.scans = []) := by
  have hI := sreach_inv w files ds x h
  have a1 := hI.inv.acct
  have a2 := hI.acct
  simp only [SSt.isDone, beq_iff_eq, ← List.length_eq_zero_iff]; omega

/-- every directory is scheduled for scanning at most once, whatever the scans report (duplicates,
loops): scheduled directories and scans in flight are duplicate-free, so at most `|U|` scans ever
start over a universe `U` of directories -/
theorem directories_scanned_once (w : ScanWorld) (files : List File) (ds : List Dir) (x : SSt)
    (h : SReach w files ds x) (U : List Dir) (hU : ∀ d ∈ x.dirs, d ∈ U) :
    x.dirs.length ≤ U.length ∧ x.scans.length ≤ x.dirs.length ∧ x.dirs.Nodup ∧ x.scans.Nodup :=
  have hI := sreach_inv w files ds x h
  ⟨hI.dirsND.length_le_of_subset hU, hI.scansND.length_le_of_subset hI.scansDirs, hI.dirsND, hI.scansND⟩

/-- files found by scanning enter the same coordinator: the file part of every reachable state
satisfies the full file invariant, so exactly-once, second-pass-after-dependencies etc. hold with
scanning too -/
theorem files_found_by_scanning_once (w : ScanWorld) (files : List File) (ds : List Dir) (x : SSt)
    (h : SReach w files ds x) :
    x.st.seen.Nodup ∧ x.st.pool.Nodup ∧ x.st.dm.fin.Nodup ∧
    (∀ a, Task.pp a false ∈ x.st.pool → ∀ d ∈ w.deps a, d ∈ x.st.dm.fin) :=
  have hI := (sreach_inv w files ds x h).inv
  ⟨hI.seenND, hI.poolND, hI.finND, hI.secondDeps⟩

/-! ### the concrete run (real passes over the model file system) -/

/-- results that depend on the file system at the moment of the pass (what the real preprocessor
delivers) do not leave the abstract model: every execution of the coordinator with free, well-typed
results is an execution for a static world that tabulates exactly the results delivered - each task is
delivered at most once. So every theorem above applies to the concrete run as well. -/
theorem free_results_are_some_world (inputs : List File) (s : St) (hist : List (Task × Res)) (h : FReach inputs s hist) :
    ∃ w : World, Reach w inputs s ∧ ∀ t r, (t, r) ∈ hist → w.result t = r :=
  freach_reach inputs s hist h

/-- the concrete whole run `Txtpp::run` (input resolution, scans, coordinator, real passes) never ends in
the coordinator's panic branch -/
theorem whole_run_never_panics (cfg : Txt.Cfg) (fs : Txt.FS) (inputs : List (List Char)) :
    (Txt.runProject cfg fs inputs).1 ≠ .panic := Txt.runProject_never_panics cfg fs inputs

/-- **success means completion, for the concrete run.** `runProjectT` is `Txtpp::run` over the model file
system together with its trace: the resolved input indices, the last state, and the deliveries (task, result)
that really happened. If the verdict is `ok`: nothing is in flight, every resolved input is known to the
coordinator, every file it ever heard of has a delivery `(pass, ok)` in the trace, every dependency list in
the trace lies within those files, and no task was delivered twice. -/
theorem concrete_success_means_completion (cfg : Txt.Cfg) (fs : Txt.FS) (inputs : List (List Char)) (idx : List File)
    (s : Txt.PSt) (hist : List (Task × Res)) (ht : Txt.runProjectT cfg fs inputs = some (idx, s, hist))
    (h : (Txt.runProject cfg fs inputs).1 = .ok) :
    s.st.pool = [] ∧ (∀ i ∈ idx, i ∈ s.st.seen) ∧
    (∀ f ∈ s.st.seen, ∃ b, (Task.pp f b, Res.ok f) ∈ hist) ∧
    (∀ f deps, (Task.pp f true, Res.hasDeps f deps) ∈ hist → ∀ d ∈ deps, d ∈ s.st.seen) ∧
    (hist.map Prod.fst).Nodup :=
  by obtain ⟨_, _, hok, _, _, hnd⟩ := Txt.every_delivery_order cfg [] fs inputs _ idx s hist (Txt.runProjectT_sched ht).1
     exact ⟨(hok h).1, (hok h).2.1, (hok h).2.2.1, (hok h).2.2.2, hnd⟩

/-- the trace is an execution of the coordinator (with the results the real passes gave) from the resolved
inputs, it ends in the file system `runProject` returns, and every run that resolves its inputs has one -/
theorem concrete_trace_is_a_coordinator_execution (cfg : Txt.Cfg) (fs : Txt.FS) (inputs : List (List Char)) (idx : List File)
    (s : Txt.PSt) (hist : List (Task × Res)) (ht : Txt.runProjectT cfg fs inputs = some (idx, s, hist)) :
    FReach idx s.st hist ∧ s.fs = (Txt.runProject cfg fs inputs).2 :=
  ⟨(Txt.runProjectT_freach cfg fs inputs idx s hist ht).1, (Txt.runProjectT_freach cfg fs inputs idx s hist ht).2.2.1⟩

/-- **budget of the concrete run**: at most two deliveries per file named, each task once; the fuel of the
reference model (`4·(files+4)`) runs out only if the run named at least twice as many distinct paths as
the tree had files -/
theorem concrete_run_budget (cfg : Txt.Cfg) (fs : Txt.FS) (inputs : List (List Char)) (idx : List File)
    (s : Txt.PSt) (hist : List (Task × Res)) (ht : Txt.runProjectT cfg fs inputs = some (idx, s, hist)) :
    hist.length ≤ 2 * s.names.length ∧ (hist.map Prod.fst).Nodup ∧
    ((Txt.runProject cfg fs inputs).1 = .outOfFuel → 2 * (fs.files.length + 4) ≤ s.names.length) :=
  by obtain ⟨hF, hB, _, hfuel⟩ := Txt.runProjectT_freach cfg fs inputs idx s hist ht
     have hb := Txt.freach_budget_names hF hB
     exact ⟨hb, freach_each_task_once hF, fun hv => by have := hfuel hv; unfold Txt.projFuel at this; omega⟩

/-- **every delivery order, concrete passes.** `runProjectSched cfg choices` is `Txtpp::run` over the model file
system where `choices` decides, at every step, which task of the pool is run and delivered next (the reference run
is the order "always the oldest"). Whatever the order: the trace is an execution of the coordinator, the run never
reaches the panic branch, `ok` means every file the coordinator heard of completed a pass that ended `ok`,
`circular` is justified by a cycle among the dependency lists this run reported, and there are at most two
deliveries per file named, each task once. (That all orders leave the same *bytes* is C02 over the abstract worker
model; it is not proved for the concrete passes.) -/
theorem every_delivery_order_concrete (cfg : Txt.Cfg) (choices : List Nat) (fs : Txt.FS) (inputs : List (List Char))
    (v : Txt.Verdict) (idx : List File) (s : Txt.PSt) (hist : List (Task × Res))
    (ht : Txt.runProjectSched cfg choices fs inputs = some (v, idx, s, hist)) :
    FReach idx s.st hist ∧ v ≠ .panic ∧
    (v = .ok → s.st.pool = [] ∧ (∀ i ∈ idx, i ∈ s.st.seen) ∧
      (∀ f ∈ s.st.seen, ∃ b, (Task.pp f b, Res.ok f) ∈ hist) ∧
      (∀ f deps, (Task.pp f true, Res.hasDeps f deps) ∈ hist → ∀ d ∈ deps, d ∈ s.st.seen)) ∧
    (v = .circular → s.st.pool = [] ∧ ∃ w : World, (∀ t r, (t, r) ∈ hist → w.result t = r) ∧
      ∃ f, (∃ d, f ∈ s.st.dm.inE d) ∧ ReachesCycle w.deps f) ∧
    hist.length ≤ 2 * s.names.length ∧ (hist.map Prod.fst).Nodup :=
  Txt.every_delivery_order cfg choices fs inputs v idx s hist ht

end C03
