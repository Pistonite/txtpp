import Txtpp.Lemmas.CliFacts
import Txtpp.Lemmas.NeededRel
import Txtpp.Lemmas.ProjectRel
import Txtpp.Lemmas.Hermetic
/-!
# Property C09 — `--needed` equals a normal build and rewrites nothing that is unchanged
-/
namespace C09
open Txt

/-- an output whose content is already correct is not written: the file system (and its touch set)
is returned unchanged -/
theorem needed_no_touch (fs2 : FS) (o : Path) (new : ByteArray) (hnd : fs2.isDir o = false)
    (h : fs2.file? o = some new) : sinkEnd .inMemory fs2 o new = (.ok, fs2) := sinkEnd_needed_same fs2 o new hnd h

/-- a stale or missing output is brought up to date -/
theorem needed_updates_stale (fs2 : FS) (o : Path) (new : ByteArray) (hnd : fs2.isDir o = false)
    (h : fs2.file? o ≠ some new) : sinkEnd .inMemory fs2 o new = (.ok, fs2.write o new) :=
  sinkEnd_needed_stale fs2 o new hnd h

/-- same verdict and same bytes at every path as a normal build's `done` -/
theorem needed_eq_build (fs2 : FS) (o : Path) (new : ByteArray) (hnd : fs2.isDir o = false) (q : Path) :
    (sinkEnd .inMemory fs2 o new).1 = (sinkEnd .build fs2 o new).1 ∧
    (sinkEnd .inMemory fs2 o new).2.file? q = (sinkEnd .build fs2 o new).2.file? q :=
  sinkEnd_needed_eq_build fs2 o new hnd q

/-- opening the output in `--needed` mode touches nothing -/
theorem needed_open (fs : FS) (o : Path) : sinkStart .inMemory fs o = some fs := rfl

/-- no mode rewrites a temp file whose content is already correct -/
theorem temp_no_touch (cfg : Cfg) (wd : Path) (src : List Char) (fs : FS) (t c : List Char) (p : Path)
    (hp : fs.resolve cfg wd t = some p) (hnd : fs.isDir p = false) (h : fs.file? p = some (encodeUtf8 c)) :
    (fileWorld cfg wd src).writeTemp fs t c = some fs := writeTemp_same cfg wd src fs t c p hp hnd h

/-- … while a stale temp file is brought up to date -/
theorem temp_updates_stale (cfg : Cfg) (wd : Path) (src : List Char) (fs fs' : FS) (t c : List Char)
    (h : (fileWorld cfg wd src).writeTemp fs t c = some fs') :
    ∃ p, fs.resolve cfg wd t = some p ∧ fs'.file? p = some (encodeUtf8 c) := writeTemp_result cfg wd src fs fs' t c h

/-- Project level: what a pass computes (`render`) does not depend on the mode, only the way the
result reaches the disk does; so a successful needed-build and a successful normal build — from
whatever was on disk, under any schedules — finish the same files with the same contents. -/
theorem needed_run_eq_build_run {C : Type} (w : Coord.World) (R : Coord.Sem C) (hR : Coord.RenderLocal w R)
    (inputs : List Coord.File) (out0 out0' : Coord.File → Coord.OutState C) (x x' : Coord.WSt C)
    (h : Coord.WReach w R inputs out0 x) (h' : Coord.WReach w R inputs out0' x')
    (hq : x.st.pool = []) (hno : ¬ Coord.Leftover x.st) (hq' : x'.st.pool = []) (hno' : ¬ Coord.Leftover x'.st) :
    (∀ f, f ∈ x.st.dm.fin ↔ f ∈ x'.st.dm.fin) ∧ ∀ f ∈ x.st.dm.fin, x.outp f = x'.outp f :=
  Coord.hermetic w R hR inputs out0 out0' x x' h h' hq hno hq' hno'

/-- what a pass computes (verdict, output text, effect on the world) is the same function in normal
build and only-if-needed mode; only the way the output reaches the disk differs -/
theorem pass_computation_mode_independent {W : Type} (Wd : World W) (le : List Char) (first trailing : Bool) (w : W)
    (lines : List (List Char)) (readOk : Bool) :
    ppPass Wd .inMemory le first trailing w lines readOk = ppPass Wd .build le first trailing w lines readOk :=
  ppPass_mode Wd _ _ (by decide) (by decide) le first trailing w lines readOk

/-- **Only-if-needed equals build, one source.** From the same tree (output path not a directory,
the source does not read its own output while it is being rebuilt), a normal build pass and an
only-if-needed pass give the same verdict, and after an `ok` pass every path holds the same bytes. -/
theorem needed_pass_eq_build_pass (cfg : Cfg) (hb : cfg.mode = .build) (a : FS) (src : Path) (first : Bool)
    (content : ByteArray) (o : Path) (bs : List (Refine.Block Directive))
    (hfile : a.file? src = some content) (hout : outputPath src = some o) (hnd : a.isDir o = false)
    (hbs : srcBlocks .build (decodeLines (byteLines content.toList)).1 = some bs)
    (hsafe : Safe cfg a src.dropLast bs [o]) (hprobes : ProbesOK cfg a src.dropLast [o] bs) :
    (runPass cfg a src first).1 = (runPass cfg.toNeeded a src first).1 ∧
    ((runPass cfg a src first).1 = .ok → ∀ q, (runPass cfg a src first).2.file? q = (runPass cfg.toNeeded a src first).2.file? q) :=
  Txt.needed_pass_eq_build_pass cfg hb a src first content o bs hfile hout hnd hbs hsafe hprobes

/-- … and from two trees that agree outside a stale set `S` (histories of edits, tampering and
deletions in between): same verdict; after `ok` they agree wherever nothing stale is left -/
theorem needed_pass_vs_build_pass_from_related_trees (cfg : Cfg) (hb : cfg.mode = .build) (a b : FS) (S : List Path) (src : Path)
    (first : Bool) (hag : Agree S a b) (hsrc : src ∉ S) (hnd : ∀ o, outputPath src = some o → a.isDir o = false)
    (hsafe : ∀ content o bs, a.file? src = some content → outputPath src = some o →
      srcBlocks .build (decodeLines (byteLines content.toList)).1 = some bs →
      Safe cfg a src.dropLast bs (o :: S) ∧ ProbesOK cfg a src.dropLast (o :: S) bs) :
    (runPass cfg a src first).1 = (runPass cfg.toNeeded b src first).1 ∧
    ((runPass cfg a src first).1 = .ok → ∀ content o bs, a.file? src = some content → outputPath src = some o →
      srcBlocks .build (decodeLines (byteLines content.toList)).1 = some bs →
      Agree ((staleAfter cfg a src.dropLast bs (o :: S)).filter (· != o))
        (runPass cfg a src first).2 (runPass cfg.toNeeded b src first).2) :=
  needed_pass_rel cfg hb a b S src first hag hsrc hnd hsafe

/-- the side condition is executable (`srcSafeB`, evaluated by the model driver on every source of the
generated trees; counts in the evidence of C08): where it answers `true`, only-if-needed equals build -/
theorem needed_pass_eq_build_pass_where_checked (cfg : Cfg) (hb : cfg.mode = .build) (a : FS) (src : Path) (first : Bool)
    (hs : srcSafeB cfg a src = some true) :
    (runPass cfg a src first).1 = (runPass cfg.toNeeded a src first).1 ∧
    ((runPass cfg a src first).1 = .ok → ∀ q, (runPass cfg a src first).2.file? q = (runPass cfg.toNeeded a src first).2.file? q) :=
  needed_eq_build_where_checked cfg hb a src first hs

/-- entry layer: without a sub-command, `-N` selects the only-if-needed mode and nothing else changes:
inputs, `-r`, `-j`, `-n` and `-s` are applied exactly as for a normal build -/
theorem cli_needed_flag (p : CliParsed) (h : p.sub = none) :
    p.config.mode = (if p.needed then .inMemory else .build) ∧
    ({ p with needed := true } : CliParsed).config = { ({ p with needed := false } : CliParsed).config with mode := .inMemory } := by
  refine ⟨(build_mode p h).1, ?_⟩
  simp [CliParsed.config, h, CliFlags.applyTo, CliBuildFlags.applyTo]

/-- **whole project: `--needed` succeeds exactly when a normal build does, and gives the same files.**
Both whole runs (`Txtpp::run`: input resolution, scans, coordinator, all passes, dependencies included)
start from the same tree; `projStale` is the executable side condition evaluated along the build run
(no executed block reads a path that is stale at that moment - e.g. the own output, which the build
has truncated and the only-if-needed run has not). The verdicts are equal, and the trees agree outside
the final stale set. -/
theorem needed_project_vs_build_project (cfg : Cfg) (hb : cfg.mode = .build) (fs : FS) (inputs : List Str) (Sfin : List Path)
    (hst : projStale cfg (trNeeded cfg) fs inputs [] = some Sfin) :
    (runProject cfg fs inputs).1 = (runProject cfg.toNeeded fs inputs).1 ∧
    Agree Sfin (runProject cfg fs inputs).2 (runProject cfg.toNeeded fs inputs).2 :=
  Txt.needed_project_vs_build_project cfg hb fs inputs Sfin hst

/-- … with nothing stale at the end (every successful run where the side condition holds): the same
bytes at every path -/
theorem needed_project_eq_build_project (cfg : Cfg) (hb : cfg.mode = .build) (fs : FS) (inputs : List Str)
    (hst : projStale cfg (trNeeded cfg) fs inputs [] = some []) :
    (runProject cfg fs inputs).1 = (runProject cfg.toNeeded fs inputs).1 ∧
    ∀ q, (runProject cfg fs inputs).2.file? q = (runProject cfg.toNeeded fs inputs).2.file? q := by
  have h := Txt.needed_project_vs_build_project cfg hb fs inputs [] hst
  exact ⟨h.1, fun q => h.2.nil q⟩

end C09
