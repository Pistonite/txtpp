import Txtpp.Lemmas.ConcreteCoord
import Txtpp.Lemmas.ByteSplit
import Txtpp.Lemmas.Term
import Txtpp.Lemmas.InjectSpec
import Txtpp.Lemmas.LineEnding
/-!
# Property C18 — no input or configuration makes txtpp panic or hang

Every panic-capable expression of the anchored files is a numbered site with a theorem that it
cannot fail for any input (sites are slices `&s[a..b]`, index expressions, `unwrap`, `assert!`).
`byteSplit s n` is defined exactly when byte offset `n` is a char boundary `≤ len`, i.e. exactly
when the Rust slice does not panic.
-/
namespace C18
open Txt

/-- the basic fact behind every slice site: slicing at the byte length of a prefix is defined -/
theorem slice_at_prefix_len (a b : List Char) : byteSplit (a ++ b) (utf8Len a) = some (a, b) :=
  byteSplit_of_append rfl

/-- directive_from.rs:20-21 `&line[..first_non_whitespace]`, `&line[first_non_whitespace..]` -/
theorem site_detect_ws (line : List Char) :
    byteSplit line (utf8Len (line.takeWhile isWs)) = some (line.takeWhile isWs, line.dropWhile isWs) :=
  byteSplit_of_append List.takeWhile_append_dropWhile

/-- directive_from.rs:24-25 `(&line[i..], &line[..i])` for `i = line.find("TXTPP#")` -/
theorem site_detect_find (rest pre fromHash : List Char) (h : findSub hash rest = some (pre, fromHash)) :
    byteSplit rest (utf8Len pre) = some (pre, fromHash) :=
  byteSplit_of_append (findSub_iff.1 h).1.symm

/-- directive_from.rs:30 `&line[TXTPP_HASH.len()..]` -/
theorem site_detect_marker (rest pre fromHash : List Char) (h : findSub hash rest = some (pre, fromHash)) :
    ∃ after, byteSplit fromHash (utf8Len hash) = some (hash, after) := by
  obtain ⟨after, h2⟩ := (findSub_iff.1 h).2.1
  exact ⟨after, byteSplit_of_append h2⟩

/-- directive_add_line.rs:18 `&line[self.whitespaces.len()..]` (guarded by `starts_with`) -/
theorem site_addline_ws (ws line : List Char) (h : ws.isPrefixOf line = true) :
    byteSplit line (utf8Len ws) = some (ws, line.drop ws.length) :=
  byteSplit_of_append (append_drop_of_isPrefixOf h)

/-- directive_add_line.rs:25 `line[self.prefix.len()..]`: guarded by `starts_with(prefix)` or by
`starts_with(" ".repeat(prefix.len()))` — the same byte count in both cases, so always a boundary
(this is the site a `chars().count()` "fix" would break for non-ASCII prefixes) -/
theorem site_addline_prefix (pre rest : List Char)
    (h : pre.isPrefixOf rest = true ∨ (spaces (utf8Len pre)).isPrefixOf rest = true) :
    ∃ a b, byteSplit rest (utf8Len pre) = some (a, b) := by
  rcases h with h | h
  · exact ⟨_, _, site_addline_ws pre rest h⟩
  · exact ⟨_, _, utf8Len_spaces (utf8Len pre) ▸ site_addline_ws _ rest h⟩

/-- directive/mod.rs:41-45 `self.args[0]` in `Display`: arguments are never empty -/
theorem site_display_args (line : List Char) (d : Directive) (h : detectFrom line = some d) : d.args ≠ [] := by
  obtain ⟨_, _, _, _, _, _, _, _, hn, _⟩ := (detectFrom_iff line d).1 h
  rcases hn with ⟨_, _, e⟩ | ⟨_, _, _, e⟩ <;> rw [e] <;> exact List.cons_ne_nil _ _

theorem site_display_args_after_addline (d d' : Directive) (line : List Char) (h : addLine d line = some d') : d'.args ≠ [] := by
  obtain ⟨_, a, _, rfl⟩ := (addLine_iff d d' line).1 h
  exact List.append_ne_nil_of_right_ne_nil _ (List.cons_ne_nil _ _)

/-- tag_state.rs:69 `assert!(!output.ends_with('\n'))`: lines coming from `lines()` never end in a newline -/
theorem site_inject_assert (s : List Char) : ∀ l ∈ rustLines s, endsNl l = false :=
  fun l hl => endsNl_of_not_mem l (rustLines_mem hl).1

/-- dependency.rs:66 `out_edge_counts.get_mut(&depender).unwrap()`: cannot fail in any reachable
coordinator state, for any dependency graph and any schedule -/
theorem site_notify_finish_unwrap (w : Coord.World) (inputs : List Coord.File) (s : Coord.St) (h : Coord.Reach w inputs s)
    (t : Coord.Task) (ht : t ∈ s.pool) :
    Coord.handle { s with pool := s.pool.erase t } (w.result t) ≠ .panic := Coord.never_panics w inputs s h t ht

/-- no hang: the coordinator's exit test is equivalent to "nothing in flight", and the number of
deliveries is bounded (so, given that no worker panics, the loop ends) -/
theorem no_hang (w : Coord.World) (inputs U : List Coord.File) (n : Nat) (s : Coord.St) (h : Coord.ReachN w inputs n s)
    (hseen : s.seen.length ≤ U.length) :
    n ≤ 2 * U.length ∧ (s.done = s.total ↔ s.pool = []) :=
  ⟨Coord.terminates w inputs U n s h hseen, Coord.exit_iff_pool_nil w inputs s (Coord.reachN_reach w inputs n s h)⟩

/-- tag_state.rs:84,92 `&output[last_end..*i]`, `&output[last_end..]`: for every substituted
occurrence the previous end is ≤ its start (so the range is not inverted), its end is within the
line, and both offsets are the byte lengths of prefixes of the line (char boundaries) -/
theorem site_inject_slices (t : TagState) (line : List Char) :
    let sel := select (sortM (matchesOf t.stored line)) 0
    sel.Pairwise (fun a b => a.1 + a.2.1.length ≤ b.1) ∧
    (∀ m ∈ sel, m.1 + m.2.1.length ≤ line.length) ∧
    (∀ n, byteSplit line (utf8Len (line.take n)) = some (line.take n, line.drop n)) := by
  intro sel
  refine ⟨(select_nonoverlap _ 0).2, ?_, ?_⟩
  · intro m hm
    obtain ⟨hle, hp, _⟩ := findIdx_some (mem_select hm).2
    have := hp.length_le
    rw [List.length_drop] at this
    omega
  · exact fun n => byteSplit_of_append (List.take_append_drop n line)

example : byteSplit ['é', 'x'] 1 = none := by decide +kernel
example : byteSplit ['é', 'x'] 2 = some (['é'], ['x']) := by decide +kernel

/-- site `dependency.rs` `unwrap` in `notify_finish`, for the concrete run: whatever the passes
deliver (their results depend on the file system at that moment), the whole run never reaches the
coordinator's panic branch -/
theorem site_notify_finish_unwrap_concrete (cfg : Cfg) (fs : FS) (inputs : List (List Char)) :
    (runProject cfg fs inputs).1 ≠ .panic := runProject_never_panics cfg fs inputs

/-- a final pass never reports dependencies and a reported dependency list is never empty: the two
facts that make the concrete results well-typed for the coordinator -/
theorem pass_reports_dependencies_only_as_first_pass (cfg : Cfg) (fs : FS) (src : Path) (first : Bool) (deps : List (List Char))
    (h : (runPass cfg fs src first).1 = .hasDeps deps) : first = true ∧ deps ≠ [] :=
  runPass_hasDeps cfg fs src first deps h

end C18
