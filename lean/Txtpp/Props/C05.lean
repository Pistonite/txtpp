import Txtpp.Lemmas.ConcreteTrace
import Txtpp.Lemmas.Term
import Txtpp.Lemmas.Hermetic
/-!
# Property C05 — dependency cycles are reported, never hang, and spare the acyclic part
-/
namespace C05
open Coord

/-- at quiescence every file that is still waiting (= appears in `take_remaining`) can reach a
dependency cycle: a project without cycles never gets a circular-dependency failure -/
theorem leftover_reaches_cycle (w : World) (inputs : List File) (s : St) (h : Reach w inputs s) (hq : s.pool = [])
    (f : File) (hf : ∃ d, f ∈ s.dm.inE d) : ReachesCycle w.deps f :=
  waiting_reaches_cycle w inputs s h hq f hf

theorem acyclic_never_circular (w : World) (inputs : List File) (s : St) (h : Reach w inputs s) (hq : s.pool = [])
    (hac : ∀ f, ¬ ReachesCycle w.deps f) : ¬ Leftover s := by
  rintro ⟨d, a, ha⟩
  exact hac a (waiting_reaches_cycle w inputs s h hq a ⟨d, ha⟩)

/-- a file that reaches a cycle is never finished (so a run that needs it never reports success):
finished files cannot reach a cycle, under every interleaving -/
theorem cyclic_never_finished {C : Type} (w : World) (R : Sem C) (hR : RenderLocal w R) (inputs : List File)
    (out0 : File → OutState C) (x : WSt C) (h : WReach w R inputs out0 x) :
    ∀ f ∈ x.st.dm.fin, ¬ ReachesCycle w.deps f := finished_no_cycle w R hR inputs out0 x h

/-- the acyclic part is spared: at quiescence every seen file that cannot reach a cycle is finished -/
theorem acyclic_part_built (w : World) (inputs : List File) (s : St) (h : Reach w inputs s) (hq : s.pool = [])
    (f : File) (hf : f ∈ s.seen) (hnc : ¬ ReachesCycle w.deps f) : f ∈ s.dm.fin :=
  (quiescent_cover w inputs s h hq f hf).resolve_left fun hw => hnc (waiting_reaches_cycle w inputs s h hq f hw)

/-- … and built correctly: its output is the complete sequential value (as in C02) -/
theorem acyclic_part_correct {C : Type} (w : World) (R : Sem C) (hR : RenderLocal w R) (inputs : List File)
    (out0 : File → OutState C) (x : WSt C) (h : WReach w R inputs out0 x) (f : File) (hf : f ∈ x.st.dm.fin) :
    x.outp f = .complete (seqVal R x.st.dm.fin f) := wreach_finOut_seq hR h f hf

/-- never hangs: the delivery bound of C03 does not assume acyclicity -/
theorem cycles_terminate (w : World) (inputs U : List File) (n : Nat) (s : St) (h : ReachN w inputs n s)
    (hseen : s.seen.length ≤ U.length) : n ≤ 2 * U.length := Coord.terminates w inputs U n s h hseen

theorem cycles_terminate_closed (w : World) (inputs U : List File) (hin : ∀ i ∈ inputs, i ∈ U)
    (hcl : ∀ f ∈ U, ∀ d ∈ w.deps f, d ∈ U) (n : Nat) (s : St) (h : ReachN w inputs n s) : n ≤ 2 * U.length :=
  terminates_closed w inputs U hin hcl n s h

/-- **concrete run: a circular-dependency verdict is always justified.** `runProjectT` is `Txtpp::run` over
the model file system with its trace (the deliveries that really happened). If the verdict is `circular`,
nothing is in flight, some file is still waiting, and in the world that tabulates exactly the deliveries of
this trace - the dependency lists the first passes of this very run reported - it reaches a cycle. -/
theorem concrete_circular_verdict_has_a_cycle (cfg : Txt.Cfg) (fs : Txt.FS) (inputs : List (List Char)) (idx : List File)
    (s : Txt.PSt) (hist : List (Task × Res)) (ht : Txt.runProjectT cfg fs inputs = some (idx, s, hist))
    (h : (Txt.runProject cfg fs inputs).1 = .circular) :
    s.st.pool = [] ∧ ∃ w : World, (∀ t r, (t, r) ∈ hist → w.result t = r) ∧
      ∃ f, (∃ d, f ∈ s.st.dm.inE d) ∧ ReachesCycle w.deps f :=
  (Txt.every_delivery_order cfg [] fs inputs _ idx s hist (Txt.runProjectT_sched ht).1).2.2.2.1 h

end C05
