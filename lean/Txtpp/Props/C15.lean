import Txtpp.Lemmas.TextIff
import Txtpp.Lemmas.AddLineIff
/-!
# Property C15 — directive recognition and continuation follow the documented grammar

`Txt.detectFrom` / `Txt.addLine` are the executable models of `Directive::detect_from` /
`Directive::add_line` (tied to the code by correspondence M1/M2, bounded-exhaustive, in process).
`Txt.IsDirectiveLine` / `Txt.Continues` are the two sentences of the property, written declaratively.
-/
namespace C15
open Txt

/-- A line starts a directive iff, after its leading whitespace, the first `TXTPP#` on the line is
immediately followed by one of the seven names and then a space or end of line; the text before it
is the prefix and the trimmed rest is the first argument. -/
theorem detect_iff_grammar (line : Str) (d : Directive) :
    detectFrom line = some d ↔ IsDirectiveLine line d := detectFrom_iff line d

/-- "any other line is ordinary text" -/
theorem ordinary_iff_no_parse (line : Str) :
    detectFrom line = none ↔ ∀ d, ¬ IsDirectiveLine line d := by
  constructor
  · intro h d hd; rw [(detectFrom_iff line d).2 hd] at h; cases h
  · intro h
    cases hd : detectFrom line with
    | none => rfl
    | some d => exact absurd ((detectFrom_iff line d).1 hd) (h d)

/-- the parse of a directive line is unique -/
theorem parse_unique (line : Str) (d₁ d₂ : Directive)
    (h₁ : IsDirectiveLine line d₁) (h₂ : IsDirectiveLine line d₂) : d₁ = d₂ := by
  have a := (detectFrom_iff line d₁).2 h₁
  have b := (detectFrom_iff line d₂).2 h₂
  rw [a] at b; exact Option.some.inj b

/-- A following line continues a run/temp/write/empty directive iff it starts with the identical
leading whitespace followed by the same prefix, or by as many spaces as the prefix is long (in
UTF-8 bytes), or consists of the prefix without its trailing whitespace; its remainder,
right-trimmed, becomes the next argument; otherwise the directive ends there. -/
theorem continuation_iff_grammar (d d' : Directive) (line : Str) :
    addLine d line = some d' ↔ d.ty.multi = true ∧ ∃ a, Continues d line a ∧ d' = d.push a :=
  addLine_iff d d' line

/-- include / after / tag never take a second line -/
theorem single_line_types (d : Directive) (line : Str) (h : d.ty.multi = false) : addLine d line = none := by
  rw [addLine_eq, if_neg fun hc => Bool.false_ne_true (h ▸ hc.1)]

theorem multi_iff (t : DType) : t.multi = true ↔ (t = .run ∨ t = .temp ∨ t = .write ∨ t = .empty) := by
  cases t <;> simp [DType.multi]

/-- the three accepted forms never disagree about the argument -/
theorem continuation_arg_unique (d : Directive) (line a b : Str) (hm : d.ty.multi = true)
    (ha : Continues d line a) (hb : Continues d line b) : a = b := by
  have h := (addLine_complete d line a hm ha).symm.trans (addLine_complete d line b hm hb)
  exact List.singleton_inj.1 (List.append_cancel_left (congrArg Directive.args (Option.some.inj h)))

/-! Non-vacuity: concrete lines that satisfy the grammar, and one that does not (evaluated by the kernel). -/
example : detectFrom [' ', ' ', '-', 'T', 'X', 'T', 'P', 'P', '#', 'r', 'u', 'n', ' ', ' ', 'a', ' ']
    = some ⟨[' ', ' '], ['-'], .run, [['a']]⟩ := by decide +kernel
example : IsDirectiveLine [' ', '/', '/', 'T', 'X', 'T', 'P', 'P', '#'] ⟨[' '], ['/', '/'], .empty, [[]]⟩ :=
  (detectFrom_iff _ _).1 (by decide +kernel)
example : detectFrom ['T', 'X', 'T', 'P', 'P', '#', 'r', 'u', 'n', 'x'] = none := by decide +kernel
example : addLine ⟨[' '], ['/', '/', ' '], .run, [['a']]⟩ [' ', '/', '/'] = some ⟨[' '], ['/', '/', ' '], .run, [['a'], []]⟩ := by decide +kernel
example : Continues ⟨[' '], ['-'], .write, []⟩ [' ', ' ', 'b', ' '] ['b'] :=
  ⟨[' ', 'b', ' '], rfl, Or.inr (Or.inr ⟨['b', ' '], rfl, by decide +kernel⟩)⟩

end C15
