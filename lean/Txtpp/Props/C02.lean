import Txtpp.Lemmas.FreeWorld
import Txtpp.Lemmas.PmInv
import Txtpp.Lemmas.Hermetic
/-!
# Property C02 — includes always see the complete, fresh output of their dependencies

`Coord.St` / `Coord.handle` model `Txtpp::run_internal` + `DepManager` + `Progress` (tied to the
code by the trace correspondence M6 under the schedule controller). `Coord.Step` delivers *any*
undelivered task result next, which covers every thread count and every OS schedule.
`Coord.WStep` adds what workers do (begin: the output is truncated; finish: a final pass writes
`render f (current outputs)`; deliver), interleaved arbitrarily.
-/
namespace C02
open Coord

/-- a second (final) pass of `a` is in flight only when every dependency of `a` has finished -/
theorem second_pass_after_deps (w : World) (inputs : List File) (s : St) (h : Reach w inputs s) (a : File)
    (ha : Task.pp a false ∈ s.pool) : ∀ d ∈ w.deps a, d ∈ s.dm.fin :=
  Coord.second_pass_after_deps w inputs s h a ha

/-- a finished file has no task in flight: its output is never truncated or rewritten again -/
theorem finished_is_quiet (w : World) (inputs : List File) (s : St) (h : Reach w inputs s) (a : File)
    (ha : a ∈ s.dm.fin) (b : Bool) : Task.pp a b ∉ s.pool :=
  Coord.finished_is_quiet w inputs s h a ha b

/-- at most one task per file is in flight (no two passes of one file overlap) -/
theorem one_task_per_file (w : World) (inputs : List File) (s : St) (h : Reach w inputs s) (a : File) :
    ¬ (Task.pp a true ∈ s.pool ∧ Task.pp a false ∈ s.pool) ∧ s.pool.Nodup :=
  Coord.one_task_per_file w inputs s h a

/-- The headline: at a successful exit, under every interleaving of begin / finish / deliver steps
and whatever stale or missing outputs were on disk at the start (`out0`), every seen file is
finished and its output is `complete (seqVal fin f)` — the value obtained by processing the
files one at a time in the (dependency) order `fin`; and these values solve
`out f = render f out`. -/
theorem concurrent_eq_sequential {C : Type} (w : World) (R : Sem C) (hR : RenderLocal w R) (inputs : List File)
    (out0 : File → OutState C) (x : WSt C)
    (h : WReach w R inputs out0 x) (hq : x.st.pool = []) (hno : ¬ Leftover x.st) :
    (∀ f ∈ x.st.seen, f ∈ x.st.dm.fin) ∧
    (∀ f ∈ x.st.dm.fin, x.outp f = .complete (seqVal R x.st.dm.fin f)) ∧
    (∀ f ∈ x.st.dm.fin, seqVal R x.st.dm.fin f = R.render f (seqVal R x.st.dm.fin)) :=
  success_outputs w R hR inputs out0 x h hq hno

/-- the sequential values do not depend on which dependency order was taken: any two solutions of
`out f = render f out` on a dependency-closed, topologically sorted list agree -/
theorem order_irrelevant {C : Type} (w : World) (R : Sem C) (hR : RenderLocal w R) (l : List File)
    (ht : TopoSorted w.deps l) (v1 v2 : File → C)
    (h1 : ∀ f ∈ l, v1 f = R.render f v1) (h2 : ∀ f ∈ l, v2 f = R.render f v2) : ∀ f ∈ l, v1 f = v2 f :=
  solution_unique w R hR l ht v1 v2 h1 h2

/-- while it holds, the invariant says: the output of every finished file is complete and equals
the sequential value, in *every* reachable state (not only at the exit) — so a final pass that is
running reads complete, fresh dependency outputs -/
theorem finished_outputs_complete {C : Type} (w : World) (R : Sem C) (hR : RenderLocal w R) (inputs : List File)
    (out0 : File → OutState C) (x : WSt C) (h : WReach w R inputs out0 x) :
    ∀ f ∈ x.st.dm.fin, x.outp f = .complete (seqVal R x.st.dm.fin f) :=
  wreach_finOut_seq hR h

/-- schedule independence, stated directly: any two successful executions of the same project (any
two interleavings, any two thread counts, any stale outputs on disk) finish the same files with
the same outputs -/
theorem schedule_independent {C : Type} (w : World) (R : Sem C) (hR : RenderLocal w R) (inputs : List File)
    (out0 out0' : File → OutState C) (x x' : WSt C)
    (h : WReach w R inputs out0 x) (h' : WReach w R inputs out0' x')
    (hq : x.st.pool = []) (hno : ¬ Leftover x.st) (hq' : x'.st.pool = []) (hno' : ¬ Leftover x'.st) :
    (∀ f, f ∈ x.st.dm.fin ↔ f ∈ x'.st.dm.fin) ∧ ∀ f ∈ x.st.dm.fin, x.outp f = x'.outp f :=
  hermetic w R hR inputs out0 out0' x x' h h' hq hno hq' hno'

/-- A command placed after an `after X` / `include X` line (X having a `.txtpp` source) never starts
before X is complete — part 1: in the first pass, meeting such a line switches to collect mode
without reading X, executing anything or producing output … -/
theorem dependency_enters_collect {W : Type} (Wd : Txt.World W) (mode : Txt.Mode) (hm : mode ≠ .clean) (le : List Char)
    (s : Txt.PpState W) (d : Txt.Directive) (dep : List Char)
    (hty : d.ty = .include ∨ d.ty = .after) (hpm : s.pm = .firstExec)
    (hdep : Wd.depOf s.w (d.args.headD []) = some (some dep)) :
    Txt.execDirective Wd mode le s d = some ({ s with pm := .collect [dep] }, none) := by
  rw [Txt.execDirective_eq Wd mode hm, Txt.collectDep_eq, if_pos ⟨by rw [hpm]; nofun, hty⟩, hdep, hpm]
  rfl

/-- … part 2: from then on every directive of that pass leaves the world and the tags untouched,
produces no output and stays in collect mode; ordinary lines are not written. The pass ends with
`hasDeps`, and the coordinator starts the second pass only after every dependency finished
(`second_pass_after_deps`). -/
theorem after_dependency_nothing_runs {W : Type} (Wd : Txt.World W) (mode : Txt.Mode) (hm : mode ≠ .clean) (le : List Char)
    (s s' : Txt.PpState W) (d : Txt.Directive) (o : Option (List Char)) (hc : Txt.isCollect s.pm = true)
    (h : Txt.execDirective Wd mode le s d = some (s', o)) :
    s'.w = s.w ∧ s'.tags = s.tags ∧ o = none ∧ Txt.isCollect s'.pm = true :=
  Txt.execDirective_collect Wd mode hm le s s' d o hc h

theorem after_dependency_nothing_written {W : Type} (Wd : Txt.World W) (mode : Txt.Mode) (le : List Char)
    (s : Txt.PpState W) (l : List Char) (hc : Txt.isCollect s.pm = true) :
    (Txt.txtppSem Wd mode le).text s l = (s, none) := Txt.text_collect Wd mode le s l hc

/-- **the same with results that depend on the file system** (what the real passes deliver; `FReach`, of
which the concrete sequential run `runLoop` is an instance - `Lemmas/ConcreteCoord.lean`): when the final
pass of a file is in flight, every dependency its first pass reported has already completed a pass that
ended `ok` - its output is finished before the includer's final pass reads it -/
theorem final_pass_after_dependencies_free_results (inputs : List File) (s : St) (hist : List (Task × Res))
    (h : FReach inputs s hist) (a : File) (ha : Task.pp a false ∈ s.pool) (deps : List File)
    (hd : (Task.pp a true, Res.hasDeps a deps) ∈ hist) : ∀ d ∈ deps, ∃ b, (Task.pp d b, Res.ok d) ∈ hist := by
  -- a static world `w` tabulates `hist` (`freach_static`); there `deps = w.deps a` (`result_hasDeps`), the second pass
  -- in flight puts them in `fin` (`second_pass_after_deps`), and `finHist` turns finished into an `ok` delivery
  obtain ⟨w, hw, hH, _, hR, _⟩ := freach_static inputs s hist h
  intro d hdm
  exact hH.finHist d (Coord.second_pass_after_deps w inputs s hR a ha d ((result_hasDeps (hw _ _ hd)).2.1 ▸ hdm))

end C02
