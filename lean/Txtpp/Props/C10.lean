import Txtpp.Lemmas.RunPassFacts
import Txtpp.Lemmas.TouchScope
/-!
# Property C10 — txtpp only ever writes its own outputs and temp targets
-/
namespace C10
open Txt

/-- Frame condition of the model: in every mode, for every source and whatever the outcome of the
pass, a path that is not in the touch set afterwards has exactly the bytes it had before, and the
touch set only grows. (`touched` is what the correspondence compares with inode/mtime changes of
the real run; it is extended only by writes/removals of the output path and of resolved temp
targets.) -/
theorem untouched_unchanged (cfg : Cfg) (fs : FS) (src : Path) (first : Bool) :
    Untouched fs (runPass cfg fs src first).2 := runPass_untouched cfg fs src first

/-- … and for the complete run (input resolution, scanning, every pass of every file the coordinator
schedules), in every mode and whatever the verdict -/
theorem whole_run_untouched_unchanged (cfg : Cfg) (fs : FS) (inputs : List (List Char)) :
    Untouched fs (runProject cfg fs inputs).2 := (runProject_runScope cfg fs inputs).1

/-- vocabulary commands never change a file -/
theorem commands_change_no_file (cfg : Cfg) (wd : Path) (src : List Char) (fs : FS) (acts : List (List Char × List Char))
    (out : ByteArray) (ok : Bool) :
    (runActs cfg wd src fs acts out ok).2.2.files = fs.files ∧ (runActs cfg wd src fs acts out ok).2.2.touched = fs.touched := by
  obtain ⟨l, hl⟩ := runActs_fs cfg wd src fs acts out ok
  rw [hl]; exact ⟨rfl, rfl⟩

/-- verify does no write of its own: opening and finishing leave the file system as it is -/
theorem verify_open_close_readonly (fs fs1 : FS) (o : Path) (new : ByteArray)
    (h : sinkStart .verify fs o = some fs1) : fs1 = fs ∧ (sinkEnd .verify fs1 o new).2 = fs1 :=
  ⟨(sinkStart_verify fs fs1 o h).1, (sinkEnd_verify fs1 o new).1⟩

/-- clean creates nothing -/
theorem clean_creates_nothing (cfg : Cfg) (wd : Path) (src : List Char) (q : Path) :
    OpsPreserve (fileWorld cfg wd src) .clean (fun fs => fs.file? q = none) := removeTemp_creates_nothing cfg wd src q

/-- a write touches exactly its own path -/
theorem write_frame (fs : FS) (p q : Path) (b : ByteArray) (h : q ≠ p) : (fs.write p b).file? q = fs.file? q :=
  file?_write_other fs p q b h

theorem remove_frame (fs : FS) (p q : Path) (h : q ≠ p) : (fs.remove p).file? q = fs.file? q :=
  file?_remove_other fs p q h

/-- The write scope of one pass, stated over the source text: whatever the mode and the outcome,
the directories are unchanged and every path the pass adds to the touch set is the source's output
path or the resolution (from the source's directory) of the target of a `temp` block of the text it
read. Together with `untouched_unchanged`: no other file changes. -/
theorem pass_writes_only_output_and_temp_targets (cfg : Cfg) (fs : FS) (src : Path) (first : Bool) :
    (runPass cfg fs src first).2.dirs = fs.dirs ∧
    ∀ p ∈ (runPass cfg fs src first).2.touched, p ∈ fs.touched ∨
      ∃ content, fs.file? src = some content ∧
        (outputPath src = some p ∨ TempTarget cfg fs src.dropLast (decodeLines (byteLines content.toList)).1 p) :=
  ⟨(runPass_scope cfg fs src first).1, (runPass_scope cfg fs src first).2.1⟩

/-- … directly on contents (no touch set): a path that is neither the output path nor the resolved
non-`.txtpp` target of a `temp` block of the source holds after the pass exactly what it held before -/
theorem pass_changes_nothing_outside_its_scope (cfg : Cfg) (fs : FS) (src : Path) (first : Bool) (q : Path)
    (hq : ¬ ∃ content, fs.file? src = some content ∧
        (outputPath src = some q ∨ TempTarget cfg fs src.dropLast (decodeLines (byteLines content.toList)).1 q)) :
    (runPass cfg fs src first).2.file? q = fs.file? q :=
  (runPass_scope cfg fs src first).2.2 q hq

/-- … and for the complete run: every touched path is the output path or a `temp` target of a source
whose bytes are those of the initial file system, or of a source the run itself generated -/
theorem run_writes_only_outputs_and_temp_targets (cfg : Cfg) (fs : FS) (inputs : List (List Char)) :
    ∀ p ∈ (runProject cfg fs inputs).2.touched, p ∈ fs.touched ∨
      ∃ src content,
        (outputPath src = some p ∨ TempTarget cfg fs src.dropLast (decodeLines (byteLines content.toList)).1 p) ∧
        (fs.file? src = some content ∨ src ∈ (runProject cfg fs inputs).2.touched) :=
  (runProject_runScope cfg fs inputs).2.2

/-- no run creates or removes a directory -/
theorem directories_never_change (cfg : Cfg) (fs : FS) (inputs : List (List Char)) :
    (runProject cfg fs inputs).2.dirs = fs.dirs := (runProject_runScope cfg fs inputs).2.1

/-- the block structure used above is that of the grammar alone (no world, no line ending) -/
theorem blocks_depend_on_text_only {W : Type} (Wd : World W) (mode : Mode) (le : List Char) (lines : List (List Char)) :
    Refine.parse (txtppSem Wd mode le) none lines = srcBlocks mode lines := parse_eq_srcBlocks Wd mode le lines

/-- non-vacuity: a two-line temp block is a block of its text, with its target as first argument -/
example : srcBlocks .build [['-', 'T', 'X', 'T', 'P', 'P', '#', 't', 'e', 'm', 'p', ' ', 'x', '.', 't', 'x', 't'], ['-', 'b', 'o', 'd', 'y']] =
    some [Refine.Block.dir ⟨[], ['-'], .temp, [['x', '.', 't', 'x', 't'], ['b', 'o', 'd', 'y']]⟩ true] := by rfl

end C10
