import Txtpp.Lemmas.ExecDirective
import Txtpp.Lemmas.ShellFacts
import Txtpp.Lemmas.EntryGuard
/-!
# Property C17 — run commands execute in the source's directory with the documented contract

What the OS does with `Command::current_dir`, `env` and `arg` is outside a Lean model; the
correspondence M9 runs real `sh` (`pwd -P`, `printf %s "$TXTPP_FILE"`, an argv-logging shell) for
every depth x base/cwd relation x entry point. The theorems state what the model hands to the
shell.
-/
namespace C17
open Txt

/-- the command handed to the shell is the argument lines joined by single spaces, as one string,
and its failure fails the directive (non-zero exit ⇒ error) -/
theorem cmd_join_and_status {W : Type} (Wd : World W) (mode : Mode) (le : List Char) (s : PpState W) (d : Directive)
    (hm : mode ≠ .clean) (hty : d.ty = .run) (hpm : s.pm = .exec) :
    execDirective Wd mode le s d =
      (match Wd.run s.w (joinWith [' '] d.args) with
       | (none, _) => none
       | (some out, w') => some (routeOutput le { s with w := w' } d.ws out)) := by
  rw [execDirective_exec Wd hm le hpm, execBody, hty]
  rfl

/-- `path_string_from_base` (fs/path/abs_path.rs), branch by branch: the base itself and a path not below it are shown
    in full, a path below the base relative to it -/
def display (base p : Path) : Path :=
  if base = p then p else if base.isPrefixOf p then p.drop base.length else p

/-- TXTPP_FILE designates the source: joining the base directory with the displayed form gives
the source path back, for every depth below the base -/
theorem txtpp_file_designates (base rel : Path) (h : rel ≠ []) : base ++ display base (base ++ rel) = base ++ rel := by
  rw [display, if_neg (fun e => h (List.self_eq_append_right.1 e)),
    if_pos (List.isPrefixOf_iff_prefix.2 (List.prefix_append _ _)), List.drop_left]

/-- the working directory of a command is the directory containing the source: in the model the
world of a source at `dir ++ [name]` resolves command arguments and `pwd` against `dir` — for
every nesting depth, independently of the process cwd (the repaired tree passes the absolute
path; finding F1) -/
theorem cwd_is_source_dir (cfg : Cfg) (dir : Path) (name : List Char) (fs : FS) :
    (runAct cfg (dir ++ [name]).dropLast (joinPath (dir ++ [name])) fs "pwd".toList []).1 =
      encodeUtf8 (cfg.baseAbs ++ (if dir = [] then [] else '/' :: joinPath dir) ++ ['\n']) := by
  simp [runAct]

example : display [['b']] [['b'], ['s', 'u', 'b'], ['a']] = [['s', 'u', 'b'], ['a']] := by decide +kernel

/-- whatever shell is configured (`-s`, split at white space; empty = `sh -c`) and whatever the command
contains, the child process receives the shell's fixed arguments followed by the command as exactly
one argument - nothing is re-split or re-quoted -/
theorem command_is_one_verbatim_argument (shellCmd command : List Char) :
    (shellArgv shellCmd command).getLast? = some command ∧
    (shellArgv shellCmd command).length = (shellOf shellCmd).2.length + 2 := by
  unfold shellArgv
  rcases shellOf shellCmd with ⟨exe, args⟩
  refine ⟨?_, by simp⟩
  exact List.getLast?_concat (l := exe :: args)

theorem default_shell_is_sh_c : shellOf [] = ("sh".toList, ["-c".toList]) := rfl

/-- **the guard of `main`**: the binary refuses to start (no configuration is built, nothing runs) exactly when
`TXTPP_FILE` is set to a non-empty text - whatever the command line says; otherwise it runs the configuration
of the command line, unchanged -/
theorem refuses_to_start_iff_txtpp_file_set (e : EnvVar) (p : CliParsed) :
    (entry e p = none ↔ ∃ s, e = .val s ∧ s ≠ []) ∧ (∀ c, entry e p = some c → c = p.config) :=
  ⟨entry_none_iff e p, entry_some e p⟩

/-- **commands cannot recurse into txtpp**: the value a command of the source `dir/name` finds in `TXTPP_FILE`
(the `file` action of the model's command world, `Shell::run`'s `.env(TXTPP_FILE, file)`) is the displayed
source path, which is never empty - so a txtpp binary started by that command, with any command line,
refuses to start -/
theorem commands_cannot_recurse (cfg : Cfg) (dir : Path) (name : Str) (hn : name ≠ []) (fs : FS) (p : CliParsed) :
    (runAct cfg (dir ++ [name]).dropLast (joinPath (dir ++ [name])) fs "file".toList []).1 =
      encodeUtf8 (joinPath (dir ++ [name])) ∧
    entry (.val (joinPath (dir ++ [name]))) p = none := by
  refine ⟨by simp [runAct], (entry_none_iff _ p).2 ⟨_, rfl, joinPath_file_ne_nil dir name hn⟩⟩

example : entry (.val "a.txt.txtpp".toList) {} = none ∧ entry .unset {} = some ({} : CliParsed).config ∧
    entry (.val []) {} ≠ none ∧ entry .notUnicode {} ≠ none := by decide +kernel

/-- the configured shell (`-s`) is split at white space and nowhere else: the executable and each fixed argument
are non-empty and contain no white space; a blank setting means `sh -c` -/
theorem shell_setting_is_split_at_white_space (shellCmd : Str) :
    (∀ t ∈ (shellOf shellCmd).1 :: (shellOf shellCmd).2, t ≠ [] ∧ ∀ c ∈ t, isWs c = false) ∧
    ((∀ c ∈ shellCmd, isWs c = true) → shellOf shellCmd = ("sh".toList, ["-c".toList])) := by
  constructor
  · unfold shellOf
    cases h : splitWhitespace shellCmd with
    | nil => decide +kernel  -- the default tokens `sh`, `-c`, by evaluation
    | cons exe args =>
      intro t ht
      exact splitWhitespace_tokens shellCmd t (h ▸ ht)
  · intro hb
    rw [shellOf, splitWhitespace_blank shellCmd hb]

example : shellOf "  bash  -e -c ".toList = ("bash".toList, ["-e".toList, "-c".toList]) := by decide +kernel

/-- a source that is not below the base directory *component-wise* keeps its full (absolute) path in
`TXTPP_FILE` - a sibling directory whose name merely extends the base directory's name as text
(`site` / `site-gen`) is not below it (`Path::strip_prefix` compares components) -/
theorem txtpp_file_outside_base (base p : Path) (h : base.isPrefixOf p = false) : display base p = p := by
  unfold display
  split
  · rfl
  · simp [h]

example : display ["r".toList, "site".toList] ["r".toList, "site-gen".toList, "p.txt.txtpp".toList] =
    ["r".toList, "site-gen".toList, "p.txt.txtpp".toList] := by decide +kernel

end C17
