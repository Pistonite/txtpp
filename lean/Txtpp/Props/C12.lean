import Txtpp.Lemmas.LineEnding
import Txtpp.Lemmas.OutputConf
import Txtpp.Lemmas.ByteLines
import Txtpp.Lemmas.ByteEndings
import Txtpp.Lemmas.CrFs
/-!
# Property C12 — generated files use one line ending: that of the source's first line
-/
namespace C12
open Txt

/-- the line ending is sniffed from the first line only: CRLF iff the first `\n` is preceded by `\r` -/
theorem sniff_first_line (first rest : List UInt8) (h : ∀ b ∈ first, b ≠ 10) :
    sniffLE (first ++ 10 :: rest) = (if first.getLast? = some 13 then ['\r', '\n'] else ['\n']) := by
  rw [sniffLE_piece first rest fun hm => h 10 hm rfl]
  simp only [beq_iff_eq]

/-- a source without any newline gets the OS default (LF on this platform) -/
theorem sniff_no_newline (b : List UInt8) (h : ∀ x ∈ b, x ≠ 10) : sniffLE b = ['\n'] := by
  have ht : b.takeWhile (· != 10) = b :=
    ((List.span_iff (· != 10) b b []).2 ⟨(List.append_nil b).symm, fun x hx => by simpa using h x hx, nofun⟩).1
  simp [sniffLE, ht]

/-- directive output (include content, command stdout, written lines) -/
theorem directive_output_one_ending (le ws raw : List Char) (hraw : crDom raw = true) (hws : Clean ws) :
    LEonly le (formatOutput le ws raw) := formatOutput_LEonly le ws raw hraw hws

/-- substituted tag content -/
theorem tag_content_one_ending (le raw : List Char) (hraw : crDom raw = true) :
    LEonly le (replaceLE le raw) := replaceLE_LEonly le raw hraw

/-- temp file content -/
theorem temp_content_one_ending (le : List Char) (body : List (List Char)) (h : ∀ l ∈ body, Clean l) :
    LEonly le (joinWith le body) := tempBody_LEonly le body h

/-- pieces produced by `str::lines` contain no line terminator when every CR is followed by LF -/
theorem lines_clean (s : List Char) (h : crDom s = true) : ∀ l ∈ rustLines s, Clean l := rustLines_clean s h

/-- The whole output: for every source whose lines are terminator-free (what `BufRead::lines`
delivers when CR occurs only before LF), every world in which included files and command output
have CR only before LF, every mode and both passes — a successful pass's output consists of
terminator-free pieces joined by the line ending sniffed from the source's first line, regardless
of the endings used by later source lines, included files, command output, written text or stored
tag content. -/
theorem output_one_ending {W : Type} (Wd : World W) (hW : WorldCr Wd) (mode : Mode) (le : List Char)
    (first trailing : Bool) (w : W) (lines : List (List Char)) (hlines : ∀ l ∈ lines, Clean l)
    (out : List Char) (w' : W) (h : ppPass Wd mode le first trailing w lines true = .ok out w') : LEonly le out :=
  output_conf Wd hW mode le first trailing w lines hlines out w' h

/-- the lines `BufRead::lines` hands to the preprocessor (split the bytes at 10, strip one trailing
13, decode as UTF-8) are free of `\r` and `\n` whenever every byte 13 of the source is followed by
byte 10 -/
theorem source_lines_terminator_free (bytes : List UInt8) (h : crB bytes = true) :
    ∀ l ∈ (decodeLines (byteLines bytes)).1, Clean l := source_lines_clean bytes h

/-- end to end for one source given as bytes: CR only before LF in the source, in included files and
in command output ⟹ every line terminator of the output is the ending sniffed from the first line -/
theorem output_one_ending_of_bytes {W : Type} (Wd : World W) (hW : WorldCr Wd) (mode : Mode) (first trailing : Bool)
    (w : W) (bytes : List UInt8) (hcr : crB bytes = true) (out : List Char) (w' : W)
    (h : ppPass Wd mode (sniffLE bytes) first trailing w (decodeLines (byteLines bytes)).1 true = .ok out w') :
    LEonly (sniffLE bytes) out :=
  output_conf Wd hW mode (sniffLE bytes) first trailing w _ (source_lines_clean bytes hcr) out w' h

/-- … and so does the content of every temp file (the argument lines after the first, joined) -/
theorem temp_file_one_ending (le : List Char) (d : Directive) (hd : DirClean d) :
    LEonly le (joinWith le d.args.tail) := tempBody_LEonly le _ fun l hl => hd.2 l (List.mem_of_mem_tail hl)

/-- the arguments of every directive parsed from terminator-free lines are terminator-free -/
theorem directive_args_clean (l : List Char) (d : Directive) (hl : Clean l) (h : detectFrom l = some d) : DirClean d :=
  detect_dirClean l d hl h

example : formatOutput ['\r', '\n'] [' '] ['a', '\n', 'b', '\r', '\n'] = [' ', 'a', '\r', '\n', ' ', 'b', '\r', '\n'] := by decide +kernel
example : crDom ['a', '\n', 'b', '\r', '\n'] = true := by decide +kernel

/-- **On bytes.** The bytes written for a generated file (`lineBytes out` = the UTF-8 encoding of the
output text) use one line ending, that of the source's first line: if it is CRLF, the bytes 13 and 10
occur only as the pair 13 10; if it is LF, the byte 13 does not occur at all. (Source bytes with CR only
before LF; included files and command output likewise.) -/
theorem generated_bytes_one_ending {W : Type} (Wd : World W) (hW : WorldCr Wd) (mode : Mode) (first trailing : Bool)
    (w : W) (bytes : List UInt8) (hcr : crB bytes = true) (out : List Char) (w' : W)
    (h : ppPass Wd mode (sniffLE bytes) first trailing w (decodeLines (byteLines bytes)).1 true = .ok out w') :
    (sniffLE bytes = ['\r', '\n'] ∧ crlfOnly (lineBytes out) = true) ∨
    (sniffLE bytes = ['\n'] ∧ (13 : UInt8) ∉ lineBytes out) :=
  bytes_one_ending (output_one_ending_of_bytes Wd hW mode first trailing w bytes hcr out w' h)

/-- **Whole run, file-system model.** If in every file of the tree a CR occurs only before LF (bytes) and
commands print such text, then after a run - any mode, any inputs, any verdict - the same is true of every
file of the tree, generated files included: no stray CR is ever produced. -/
theorem run_keeps_tree_cr_clean (cfg : Cfg) (hcmd : CmdCr cfg) (fs : FS) (inputs : List (List Char)) (h : CrFS fs) :
    CrFS (runProject cfg fs inputs).2 := runProject_crfs cfg hcmd fs inputs h

/-- **One build pass, on the bytes of the output file.** Over such a tree, after a build pass that ends
`ok`, the output file holds the encoding of a text whose line terminators are all the ending of the
source's first line: for a CRLF source the bytes 13 and 10 occur only as the pair, for an LF source the
byte 13 does not occur. (Included files are read from the file system here, not assumed.) -/
theorem build_pass_output_bytes_one_ending (cfg : Cfg) (hb : cfg.mode = .build) (hcmd : CmdCr cfg) (fs : FS) (src o : Path)
    (first : Bool) (content : ByteArray) (h : CrFS fs) (hfile : fs.file? src = some content) (hout : outputPath src = some o)
    (hok : (runPass cfg fs src first).1 = .ok) :
    ∃ out, (runPass cfg fs src first).2.file? o = some (encodeUtf8 out) ∧
      ((sniffLE content.toList = ['\r', '\n'] ∧ crlfOnly (lineBytes out) = true) ∨
       (sniffLE content.toList = ['\n'] ∧ (13 : UInt8) ∉ lineBytes out)) := by
  -- an `ok` pass is open / line loop / close (`runPass_ok_inv`); opening keeps `CrFS`; over a CR-clean tree the output
  -- of the loop is `LEonly` (`srcPass_crfs`); closing a build writes its encoding
  obtain ⟨fs', hrun⟩ : ∃ fs', runPass cfg fs src first = (.ok, fs') := ⟨_, Prod.ext hok rfl⟩
  obtain ⟨content', o', fs1, out, fs2, hfile', hout', hstart, hpp, hend⟩ := runPass_ok_inv cfg fs src first fs' hrun
  rw [hfile] at hfile'; cases hfile'
  rw [hout] at hout'; cases hout'
  rw [hrun, ← hend, hb]
  refine ⟨out, by rw [sinkEnd_build]; exact file?_write_same .., ?_⟩
  have h1 := CrFS.sinkStart h hstart
  exact bytes_one_ending ((srcPass_crfs cfg fs src (hcmd _ _) first content fs1 h hfile h1).2 out fs2 hpp)

/-- bytes and text agree on "CR only before LF" (both directions, through the UTF-8 codec) -/
theorem cr_clean_bytes_iff_text (s : List Char) : crB s.utf8Encode.data.toList = true ↔ crDom s = true :=
  by rw [crB_encode]

/-- the hypothesis on commands is satisfiable by a purely static condition: a vocabulary whose commands
print CR-clean literals and contents of files of the tree (no path-dependent output) prints CR-clean text
over a CR-clean tree - so the whole-run theorem needs nothing but facts about the initial tree and the
command table -/
theorem vocabulary_commands_are_cr_clean (cfg : Cfg) (hv : VocabCr cfg) : CmdCr cfg := cmdCr_of_vocab cfg hv

theorem run_keeps_tree_cr_clean_static (cfg : Cfg) (hv : VocabCr cfg) (fs : FS) (inputs : List (List Char)) (h : CrFS fs) :
    CrFS (runProject cfg fs inputs).2 := run_keeps_tree_cr_clean cfg (vocabulary_commands_are_cr_clean cfg hv) fs inputs h

end C12
