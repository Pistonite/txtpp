import Txtpp.Lemmas.RunPassFacts
import Txtpp.Lemmas.CliFacts
import Txtpp.Lemmas.CleanRestore
import Txtpp.Lemmas.CleanProject
/-!
# Property C07 — clean removes exactly what build generated and never executes anything
-/
namespace C07
open Txt

/-- clean never runs a command: the marker log after a clean pass is the log before it — for
every source, also one full of `run` directives -/
theorem clean_executes_nothing (cfg : Cfg) (fs : FS) (src : Path) (first : Bool) (hm : cfg.mode = .clean) :
    (runPass cfg fs src first).2.log = fs.log := runPass_clean_log cfg fs src first hm

/-- … the same for a complete clean run over any inputs: no command is executed at all -/
theorem clean_run_executes_nothing (cfg : Cfg) (hm : cfg.mode = .clean) (fs : FS) (inputs : List (List Char)) :
    (runProject cfg fs inputs).2.log = fs.log :=
  runProject_inv cfg (fun f => f.log = fs.log)
    (fun fs1 src first h => by rw [runPass_clean_log cfg fs1 src first hm]; exact h) fs inputs rfl

/-- clean succeeds even when the source contains directive errors (prefix-less multi-line
directives, missing includes, failing commands, tag misuse, bad temp targets): the line loop of a
clean pass cannot fail -/
theorem clean_never_fails_on_directives {W : Type} (Wd : World W) (le : List Char) (first trailing : Bool) (w : W)
    (lines : List (List Char)) : ppPass Wd .clean le first trailing w lines true ≠ .err := by
  obtain ⟨out, w', h⟩ := clean_pass_ok Wd le first trailing w lines
  rw [h]; nofun

/-- clean creates nothing: a path that holds no file before a clean pass holds none after it -/
theorem clean_creates_nothing (cfg : Cfg) (hm : cfg.mode = .clean) (src : Path) (q : Path) (le : List Char) (first : Bool)
    (fs1 : FS) (lines : List (List Char)) (readOk : Bool) (h : fs1.file? q = none) :
    PassPost (fun fs => fs.file? q = none)
      (ppPass (fileWorld cfg src.dropLast (joinPath src)) cfg.mode le first cfg.trailing fs1 lines readOk) :=
  ppPass_world_inv _ cfg.mode _ (by rw [hm]; exact removeTemp_creates_nothing cfg _ _ q) le first cfg.trailing fs1 lines readOk h

/-- clean removes the output of the source it processes -/
theorem clean_removes_output (fs fs1 : FS) (o : Path) (h : sinkStart .clean fs o = some fs1) : fs1.file? o = none :=
  sinkStart_clean_absent fs fs1 o h

/-- a temp target whose name is a txtpp name is refused in every mode, so clean never deletes a
`.txtpp` file through a temp directive -/
theorem txtpp_temp_target_refused {W : Type} (Wd : World W) (le : List Char) (w : W) (target : List Char)
    (body : List (List Char)) (isClean : Bool) (h : isTxtppPath target = true) :
    execTemp Wd le w (target :: body) isClean = none := by
  rw [execTemp_cons, if_pos h]

/-- Clean removes exactly what build generated — the parse side: whenever build's grouping of the
source lines into directive blocks succeeds, clean groups the same lines into exactly the same
blocks (same directives, same arguments, same continuation lines). So text that build treated as
directive *content* (e.g. a `TXTPP#temp …` line escaped inside a `write`) is never a directive for
clean, and every temp block of build is a temp block of clean with the same target. -/
theorem clean_sees_builds_blocks {W : Type} (Wd : World W) (mode : Mode) (hm : mode ≠ .clean) (le : List Char)
    (lines : List (List Char)) (bs : List (Refine.Block Directive))
    (h : Refine.parse (txtppSem Wd mode le) none lines = some bs) :
    Refine.parse (txtppSem Wd .clean le) none lines = some bs :=
  parse_clean_eq_build Wd mode hm le lines none bs h

/-- … the effect side: for a temp block with target `t`, build writes `t`, clean removes `t` (and
ignores a failing removal); every other block is a no-op for clean -/
theorem temp_block_build_writes {W : Type} (Wd : World W) (le : List Char) (s : PpState W) (d : Directive)
    (target : List Char) (body : List (List Char))
    (hty : d.ty = .temp) (hargs : d.args = target :: body) (hpm : s.pm = .exec) (hn : isTxtppPath target = false) :
    execDirective Wd .build le s d =
      (match Wd.writeTemp s.w target (joinWith le body) with
       | none => none
       | some w' => some ({ s with w := w' }, none)) := by
  rw [execDirective_exec Wd (by decide) le hpm]
  simp only [execBody, hty, hargs, execTemp_cons, hn, Bool.false_eq_true, if_false]
  cases Wd.writeTemp s.w target (joinWith le body) <;> rfl

theorem temp_block_clean_removes {W : Type} (Wd : World W) (le : List Char) (s : PpState W) (d : Directive)
    (target : List Char) (body : List (List Char))
    (hty : d.ty = .temp) (hargs : d.args = target :: body) (hn : isTxtppPath target = false) :
    execDirective Wd .clean le s d =
      (match Wd.removeTemp s.w target with
       | none => some (s, none)
       | some w' => some ({ s with w := w' }, none)) := by
  rw [execDirective_clean_temp Wd le s d hty hargs hn]
  cases Wd.removeTemp s.w target <;> rfl

theorem other_blocks_clean_noop {W : Type} (Wd : World W) (le : List Char) (s : PpState W) (d : Directive)
    (hty : d.ty ≠ .temp) : execDirective Wd .clean le s d = some (s, none) := by
  rw [execDirective_clean, if_neg hty]

/-- everything a clean pass leaves untouched keeps its bytes (sources, included files, unrelated files) -/
theorem clean_keeps_untouched (cfg : Cfg) (fs : FS) (src : Path) (first : Bool) :
    Untouched fs (runPass cfg fs src first).2 := runPass_untouched cfg fs src first

/-- a clean pass over a readable source never fails on directives and never reports dependencies:
its line loop always ends `ok` -/
theorem clean_pass_always_ok {W : Type} (Wd : World W) (le : List Char) (first trailing : Bool) (w : W) (lines : List (List Char)) :
    ∃ out w', ppPass Wd .clean le first trailing w lines true = .ok out w' := clean_pass_ok Wd le first trailing w lines

/-- after a clean pass, neither the source's output nor any (non-`.txtpp`) target of a `temp` block of
its text exists -/
theorem clean_pass_removes_output_and_temp_targets (cfg : Cfg) (hm : cfg.mode = .clean) (fs fs' : FS) (src : Path) (first : Bool)
    (h : runPass cfg fs src first = (.ok, fs')) (p : Path) (content : ByteArray) (hc : fs.file? src = some content)
    (hp : outputPath src = some p ∨ TempTarget cfg fs src.dropLast (decodeLines (byteLines content.toList)).1 p) :
    fs'.file? p = none :=
  clean_runPass_removes cfg hm fs fs' src first h p ⟨content, hc, hp⟩

/-- … and nothing else is changed by it -/
theorem clean_pass_changes_nothing_else (cfg : Cfg) (fs : FS) (src : Path) (first : Bool) (q : Path)
    (hq : ¬ ∃ content, fs.file? src = some content ∧
        (outputPath src = some q ∨ TempTarget cfg fs src.dropLast (decodeLines (byteLines content.toList)).1 q)) :
    (runPass cfg fs src first).2.file? q = fs.file? q :=
  (runPass_scope cfg fs src first).2.2 q hq

/-- **build then clean restores the tree (one source).** In a tree where neither the output nor any
temp target of the source exists, a build pass that ends `ok` followed by a clean pass of the same
source (same options, mode clean) ends `ok` and leaves every path with exactly the bytes — or the
absence — it had before the build: clean removes exactly what build generated. (Whole projects: the
same per source; that clean does not follow `include`/`after` edges to sources that are not inputs
is the known finding F5.) -/
theorem build_then_clean_restores_one_source (cfg : Cfg) (hb : cfg.mode = .build) (fs fsB : FS) (src : Path) (first first' : Bool)
    (hfresh : ∀ p, (∃ content, fs.file? src = some content ∧
        (outputPath src = some p ∨ TempTarget cfg fs src.dropLast (decodeLines (byteLines content.toList)).1 p)) →
        fs.file? p = none)
    (hbuild : runPass cfg fs src first = (.ok, fsB)) :
    ∃ fsC, runPass cfg.toClean fsB src first' = (.ok, fsC) ∧ ∀ q, fsC.file? q = fs.file? q :=
  build_then_clean_restores cfg hb fs fsB src first first' hfresh hbuild

/-- entry layer: `txtpp clean …` runs in clean mode with its own flags; a `-N` (or anything else) in
front of the sub-command cannot turn it into a build -/
theorem cli_clean_maps_to_clean_mode (p : CliParsed) (f : CliFlags) (h : p.sub = some (.clean f)) :
    p.config.mode = .clean ∧ p.config.recursive = f.recursive ∧ p.config.inputs = f.inputs ∧
    ∀ fl bl n, ({ p with flags := fl, build := bl, needed := n } : CliParsed).config = p.config :=
  ⟨(clean_mode p f h).1, (clean_mode p f h).2.1, (clean_mode p f h).2.2.1, fun fl bl n => sub_ignores_top_level p _ h fl bl n⟩

/-- The mechanism of the known finding F5, as a theorem about the model (= the code): a clean pass never
reports dependencies, whatever `include` / `after` directives the source contains - so the coordinator
is never told about `.txtpp` dependencies in clean mode and only the resolved inputs are cleaned.
(`build a.txt` also builds what `a.txt` includes; `clean a.txt` removes only what `a.txt.txtpp` itself
generated. Documented in `Mode::Clean`; reported as KNOWN-FINDING by the C07 job, not repaired.) -/
theorem clean_never_reports_dependencies {W : Type} (Wd : World W) (le : List Char) (first trailing : Bool) (w : W)
    (lines : List (List Char)) (deps : List (List Char)) (w' : W) :
    ppPass Wd .clean le first trailing w lines true ≠ .hasDeps deps w' := by
  obtain ⟨out, w'', h⟩ := clean_pass_ok Wd le first trailing w lines
  rw [h]; simp

/-- **whole project, concrete model of `Txtpp::run`**: after a clean run that ends `ok`, for every source
the inputs resolve to - named as a file, or found by the (recursive) directory scans - neither its
output nor any (non-`.txtpp`) target of a `temp` block of its text exists any more. (Sources reached
only through `include`/`after` are not among them: known finding F5.) -/
theorem clean_run_removes_outputs_and_temp_files_of_all_inputs (cfg : Cfg) (hm : cfg.mode = .clean) (fs : FS)
    (inputs : List (List Char)) (hok : (runProject cfg fs inputs).1 = .ok) (files dirs : List Path)
    (hres : resolveInputs cfg fs inputs = some (files, dirs)) (src : Path)
    (hsrc : src ∈ files ++ scanAll fs cfg.recursive (fs.dirs.length + dirs.length + 2) dirs [])
    (content : ByteArray) (hc : fs.file? src = some content) (p : Path)
    (hp : outputPath src = some p ∨ TempTarget cfg fs src.dropLast (decodeLines (byteLines content.toList)).1 p) :
    (runProject cfg fs inputs).2.file? p = none :=
  clean_project_removes cfg hm fs inputs hok files dirs hres src hsrc p ⟨content, hc, hp⟩

/-- … and a clean run, whatever its verdict, only removes: no directory changes, and every path holds
afterwards the bytes it held before, or nothing -/
theorem clean_run_only_removes (cfg : Cfg) (hm : cfg.mode = .clean) (fs : FS) (inputs : List (List Char)) :
    (runProject cfg fs inputs).2.dirs = fs.dirs ∧
    ∀ q, (runProject cfg fs inputs).2.file? q = none ∨ (runProject cfg fs inputs).2.file? q = fs.file? q :=
  runProject_inv cfg (OnlyRemoved fs) (fun w src first h => h.trans (runPass_clean_onlyRemoves cfg hm w src first)) fs inputs
    (OnlyRemoved.refl fs)

/-- a clean pass never reports dependencies to the coordinator (the mechanism of F5, at the level of `preprocess`) -/
theorem clean_pass_reports_no_dependencies (cfg : Cfg) (hm : cfg.mode = .clean) (fs : FS) (src : Path) (first : Bool)
    (deps : List (List Char)) : (runPass cfg fs src first).1 ≠ .hasDeps deps :=
  runPass_clean_no_deps cfg hm fs src first deps

end C07
