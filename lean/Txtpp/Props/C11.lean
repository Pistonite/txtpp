import Txtpp.Lemmas.PathNameFacts
import Txtpp.Lemmas.CliFacts
import Txtpp.Lemmas.Hermetic
import Txtpp.Lemmas.ScanSpec
import Txtpp.Lemmas.Interning
/-!
# Property C11 — exactly the requested sources are processed and outputs are named correctly

The naming algebra (`PathName`: `std::path` extension rules + `fs/path/mod.rs`) as theorems for
*all* names; which files get processed (`resolve_inputs`, `scan_dir`, dependency closure, once
each) is tied to the code by correspondence M8 on generated trees and input lists.
-/
namespace C11
open PathName

/-- `foo.txtpp` → `foo` (for every non-empty `foo` that is not itself `*.txtpp`; dots allowed) -/
theorem out_txtpp (foo : Str) (h1 : foo ≠ []) (h2 : extension foo ≠ some txtpp) :
    removeTxtpp (foo ++ '.' :: txtpp) = some foo := PathName.out_txtpp foo h1 h2

/-- `foo.ext.txtpp` → `foo.ext` -/
theorem out_ext_txtpp (foo ext : Str) (h1 : foo ≠ []) (h2 : '.' ∉ ext) (h3 : ext ≠ []) (h4 : ext ≠ txtpp) :
    removeTxtpp ((foo ++ '.' :: ext) ++ '.' :: txtpp) = some (foo ++ '.' :: ext) :=
  PathName.out_ext_txtpp foo ext h1 h2 h3 h4

/-- `foo.txtpp.ext` is a txtpp source and → `foo.ext`, also when `foo` contains dots
(`lib.min.txtpp.js` → `lib.min.js`; true of the repaired tree, finding F6) -/
theorem out_txtpp_ext (foo ext : Str) (h1 : foo ≠ []) (h2 : '.' ∉ ext) (h3 : ext ≠ []) (h4 : ext ≠ txtpp) :
    isTxtppFile ((foo ++ '.' :: txtpp) ++ '.' :: ext) = true ∧
    removeTxtpp ((foo ++ '.' :: txtpp) ++ '.' :: ext) = some (foo ++ '.' :: ext) :=
  PathName.out_txtpp_ext foo ext h1 h2 h3 h4

/-- naming a file by its output name: whichever source `get_txtpp_file` finds (it tries
`n.txtpp`-style first, then `stem.txtpp.ext`), its output is exactly `n`, and it exists -/
theorem named_by_output_finds_its_source (ex : Str → Bool) (n s : Str) (hn : n ≠ []) (hwd : NoTrailingDot n)
    (h : getTxtppFile ex n = some s) : removeTxtpp s = some n ∧ ex s = true := get_remove ex n s hn hwd h

/-- a txtpp source is never looked up as an output name -/
theorem source_name_not_resolved (ex : Str → Bool) (n : Str) (h : isTxtppFile n = true) : getTxtppFile ex n = none := by
  simp [getTxtppFile, h]

/-- look-alikes that are not txtpp files: `txtpp`, `.txtpp`, `a.txtpp.b.c`, `a.txt`, `a.txtpp~` -/
theorem lookalikes_not_txtpp :
    isTxtppFile txtpp = false ∧ isTxtppFile ('.' :: txtpp) = false ∧
    isTxtppFile ['a', '.', 't', 'x', 't', 'p', 'p', '.', 'b', '.', 'c'] = false ∧
    isTxtppFile ['a', '.', 't', 'x', 't'] = false ∧ isTxtppFile ['a', '.', 't', 'x', 't', 'p', 'p', '~'] = false :=
  PathName.lookalikes_not_txtpp

/-- the processed set is contained in the dependency closure of the inputs (named and scanned
files): the coordinator never processes a file that is not reachable from an input -/
theorem processed_within_closure (w : Coord.World) (inputs : List Coord.File) (s : Coord.St) (h : Coord.Reach w inputs s) :
    ∀ f ∈ s.seen, ∃ i ∈ inputs, Coord.Path w.deps i f := Coord.seen_reachable w inputs s h

/-- exactly: at a successful exit (build / verify) the set of files that got a final pass is the
dependency closure of the input files (named and scanned), no more and no less -/
theorem processed_set_eq_closure (w : Coord.World) (inputs : List Coord.File) (s : Coord.St) (h : Coord.Reach w inputs s)
    (hq : s.pool = []) (hno : ¬ Coord.Leftover s) (f : Coord.File) :
    f ∈ s.dm.fin ↔ ∃ i ∈ inputs, Coord.Path w.deps i f := Coord.success_fin_eq_closure w inputs s h hq hno f

/-- … and at a successful exit it is all of it that was seen, each finished exactly once -/
theorem processed_once_each (w : Coord.World) (inputs : List Coord.File) (s : Coord.St) (h : Coord.Reach w inputs s) :
    s.dm.fin.Nodup ∧ ∀ f ∈ s.dm.fin, f ∈ s.seen :=
  ⟨(Coord.reach_inv w inputs s h).finND, (Coord.reach_inv w inputs s h).finSeen⟩

example : removeTxtpp ['l', 'i', 'b', '.', 'm', 'i', 'n', '.', 't', 'x', 't', 'p', 'p', '.', 'j', 's'] =
    some ['l', 'i', 'b', '.', 'm', 'i', 'n', '.', 'j', 's'] := by decide +kernel

/-- **Directory inputs.** With the fuel `Txtpp::run` gives it, the directory walk finds exactly the
txtpp-named regular files that lie directly inside an input directory or - recursive mode only - inside
a directory below one: no other file, nothing from a directory that was not requested, and nothing is
missed however deep or wide the tree is. -/
theorem directory_inputs_find_exactly_the_sources_below (fs : Txt.FS) (recursive : Bool) (dirs : List Txt.Path) (p : Txt.Path) :
    p ∈ Txt.scanAll fs recursive (fs.dirs.length + dirs.length + 2) dirs [] ↔
      ∃ d, Txt.Desc fs recursive dirs d ∧ Txt.IsSrcIn fs d p := by
  constructor
  · exact Txt.scanAll_sound fs recursive dirs _ dirs [] (fun d hd => Txt.Desc.root hd) p
  · rintro ⟨d, hd, hp⟩
    exact Txt.scanAll_complete fs recursive dirs _ (by omega) d p hd hp

/-- without `-r` only the input directories themselves are looked at -/
theorem non_recursive_scans_only_the_inputs (fs : Txt.FS) (dirs : List Txt.Path) (d : Txt.Path)
    (h : Txt.Desc fs false dirs d) : d ∈ dirs := by
  induction h with
  | root hm => exact hm
  | child hr _ _ _ => simp at hr

/-- a file found by the walk is a txtpp-named file of the tree whose parent is the scanned directory -/
theorem scanned_file_is_a_source (fs : Txt.FS) (r : Bool) (d p : Txt.Path) (h : p ∈ (Txt.scanDir fs r d).1) :
    (∃ b, (p, b) ∈ fs.files) ∧ p.dropLast = d ∧ ∃ n, p.getLast? = some n ∧ PathName.isTxtppFile n = true := by
  obtain ⟨h1, _, h3, h4⟩ := (Txt.mem_scanDir_files fs r d p).1 h
  exact ⟨h1, h3, h4⟩

/-- **Naming the same file several ways processes it once (file table).** Paths are interned after OS
path resolution; two inputs (or an input and a scanned or required file) that resolve to the same
path get the same file index, and different paths get different indices - so for the coordinator they
are one file, which `processed_once_each` completes once. -/
theorem same_path_same_file (ps names : List Txt.Path) (hn : names.Nodup) (i j : Nat) (hi : i < ps.length) (hj : j < ps.length)
    (h : ps[i] = ps[j]) :
    (Txt.indexAll names ps).2[i]'(by rw [(Txt.indexAll_spec ps names).1]; exact hi) =
    (Txt.indexAll names ps).2[j]'(by rw [(Txt.indexAll_spec ps names).1]; exact hj) :=
  (Txt.indexAll_eq_iff ps names hn hi hj).2 h

/-- the table is faithful: every index designates its path, the table stays duplicate-free -/
theorem file_table_faithful (ps names : List Txt.Path) :
    (names.Nodup → (Txt.indexAll names ps).1.Nodup) ∧
    ∀ k (hk : k < ps.length), ∃ hk' : k < (Txt.indexAll names ps).2.length,
      (Txt.indexAll names ps).1.getD ((Txt.indexAll names ps).2[k]) [] = ps[k] ∧
      (Txt.indexAll names ps).2[k] < (Txt.indexAll names ps).1.length :=
  ⟨(Txt.indexAll_spec ps names).2.2.1, (Txt.indexAll_spec ps names).2.2.2⟩

/-- spellings with `.`, empty components and `d/..` resolve to the same path -/
theorem dot_components_do_not_matter (fs : Txt.FS) (cur : Txt.Path) (cs : List (List Char)) (h : fs.isDir cur = true) :
    fs.walk cur (Txt.dot :: cs) = fs.walk cur cs ∧ fs.walk cur ([] :: cs) = fs.walk cur cs := by
  constructor <;> simp [Txt.FS.walk, h]

theorem down_and_up_is_identity (fs : Txt.FS) (cur : Txt.Path) (c : List Char) (cs : List (List Char)) (h : fs.isDir cur = true)
    (hc : fs.isDir (cur ++ [c]) = true) (h1 : c ≠ []) (h2 : c ≠ Txt.dot) (h3 : c ≠ Txt.dotdot) :
    fs.walk cur (c :: Txt.dotdot :: cs) = fs.walk cur cs := by
  have hnd : (Txt.dotdot = ([] : List Char)) = False := by simp [Txt.dotdot]
  have hnd2 : (Txt.dotdot = Txt.dot) = False := by simp [Txt.dotdot, Txt.dot]
  simp [Txt.FS.walk, h, hc, h1, h2, h3, hnd, hnd2]

/-- entry layer: the inputs and the recursion flag of the run are those of the command that runs -/
theorem cli_inputs_and_recursion (p : Txt.CliParsed) :
    (p.sub = none → p.config.inputs = p.flags.inputs ∧ p.config.recursive = p.flags.recursive) ∧
    (∀ f, p.sub = some (.clean f) → p.config.inputs = f.inputs ∧ p.config.recursive = f.recursive) ∧
    (∀ f b, p.sub = some (.verify f b) → p.config.inputs = f.inputs ∧ p.config.recursive = f.recursive) :=
  ⟨fun h => ⟨(Txt.build_mode p h).2.2.1, (Txt.build_mode p h).2.1⟩,
   fun f h => ⟨(Txt.clean_mode p f h).2.2.1, (Txt.clean_mode p f h).2.1⟩,
   fun f b h => ⟨(Txt.verify_mode p f b h).2.2.1, (Txt.verify_mode p f b h).2.1⟩⟩

end C11
