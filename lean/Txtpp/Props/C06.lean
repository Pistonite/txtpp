import Txtpp.Lemmas.RunPassFacts
import Txtpp.Lemmas.CliFacts
import Txtpp.Lemmas.VerifyRel
import Txtpp.Lemmas.Hermetic
import Txtpp.Lemmas.ProjectRel
/-!
# Property C06 — verify passes exactly when outputs are up to date, and is read-only
-/
namespace C06
open Txt

/-- the streaming comparison of `CtxOut::Verify` (remaining-length counter, chunk by chunk,
`rem = 0` at the end) succeeds exactly when the existing content is the concatenation of the
chunks: a changed, missing, extra byte anywhere, a truncation or an extension makes it fail -/
theorem stream_compare_iff {α : Type} [DecidableEq α] (existing : List α) (chunks : List (List α)) :
    verifyStream existing chunks = true ↔ existing = chunks.flatten := verifyStream_iff existing chunks

/-- a verify pass whose directives all succeed reports `ok` iff the output file holds exactly the
bytes a build would write now; and `done` never changes the file system -/
theorem verify_ok_iff_uptodate (fs2 : FS) (o : Path) (new : ByteArray) :
    (sinkEnd .verify fs2 o new).2 = fs2 ∧ ((sinkEnd .verify fs2 o new).1 = .ok ↔ fs2.file? o = some new) :=
  sinkEnd_verify fs2 o new

/-- a missing output fails, and opening an output for verification does not change anything -/
theorem verify_open_readonly (fs fs1 : FS) (o : Path) (h : sinkStart .verify fs o = some fs1) :
    fs1 = fs ∧ fs.pathExists o = true := sinkStart_verify fs fs1 o h

theorem verify_missing_fails (fs : FS) (o : Path) (h : fs.pathExists o = false) : sinkStart .verify fs o = none := by
  simp [sinkStart, h]

/-- verify is read-only: the only file-system operations of a verify pass are those of the
source's own temp directives and commands; whatever they preserve, the pass preserves —
in particular every untouched path keeps its bytes -/
theorem verify_untouched (cfg : Cfg) (fs : FS) (src : Path) (first : Bool) :
    Untouched fs (runPass cfg fs src first).2 := runPass_untouched cfg fs src first

theorem verify_pass_preserves (cfg : Cfg) (hm : cfg.mode = .verify) (src : Path) (I : FS → Prop)
    (hp : OpsPreserve (fileWorld cfg src.dropLast (joinPath src)) .verify I) (le : List Char) (first : Bool)
    (fs1 : FS) (lines : List (List Char)) (readOk : Bool) (hI : I fs1) :
    PassPost I (ppPass (fileWorld cfg src.dropLast (joinPath src)) cfg.mode le first cfg.trailing fs1 lines readOk) :=
  ppPass_world_inv _ cfg.mode I (by rw [hm]; exact hp) le first cfg.trailing fs1 lines readOk hI

/-- Project level (abstract in what a pass computes, for every dependency graph and schedule): in a
verify run over existing outputs `E` — the pass of a file fails exactly when its existing output
differs from the fresh output computed from the existing outputs of its dependencies — success
implies that every file in the dependency closure of the inputs was verified and holds exactly
the value a build would write now (`seqVal` = processing the files one at a time) … -/
theorem verify_success_means_uptodate {C : Type} (w : Coord.World) (R : Coord.Sem C) (hR : Coord.RenderLocal w R)
    (E : Coord.File → C) (hV : Coord.VerifyWorld w R E) (inputs : List Coord.File)
    (out0 : Coord.File → Coord.OutState C) (x : Coord.WSt C) (h : Coord.WReach w R inputs out0 x)
    (hq : x.st.pool = []) (hno : ¬ Coord.Leftover x.st) :
    (∀ f, (∃ i ∈ inputs, Coord.Path w.deps i f) → f ∈ x.st.dm.fin) ∧
    ∀ f ∈ x.st.dm.fin, E f = Coord.seqVal R x.st.dm.fin f := by
  have hr := Coord.wreach_reach h
  refine ⟨fun f hf => (Coord.success_fin_eq_closure w inputs x.st hr hq hno f).2 hf, ?_⟩
  -- no finished file fails, so `E` solves the equations on `fin`; so does `seqVal`; they agree
  have hE : ∀ f ∈ x.st.dm.fin, E f = R.render f E := fun f hf =>
    Classical.byContradiction fun he => Coord.failing_never_finished w inputs x.st hr f ((hV.failFinal f).2 he) hf
  exact Coord.solution_unique w R hR _ (Coord.reach_topo w inputs _ hr) E _ hE (Coord.reach_seqVal hR hr)

/-- … and conversely, when every output in the closure is up to date no task of the run reports an
error, while any mismatch that is reached is an error -/
theorem verify_uptodate_means_no_error {C : Type} (w : Coord.World) (R : Coord.Sem C) (E : Coord.File → C)
    (hV : Coord.VerifyWorld w R E) (inputs : List Coord.File) (s : Coord.St) (h : Coord.Reach w inputs s)
    (hup : ∀ f, (∃ i ∈ inputs, Coord.Path w.deps i f) → E f = R.render f E) (t : Coord.Task) (ht : t ∈ s.pool) :
    w.result t ≠ .err := by
  cases t with
  | pp f first =>
    have hseen : f ∈ s.seen := (Coord.reach_inv w inputs s h).poolSeen f first ht
    rcases Coord.result_cases w f first with ⟨_, hf | hf⟩ | ⟨e, _⟩ | ⟨e, _⟩
    · rw [hV.failFirst f] at hf; cases hf
    · exact absurd (hup f (Coord.seen_reachable w inputs s h f hseen)) ((hV.failFinal f).1 hf)
    · rw [e]; exact fun h => nomatch h
    · rw [e]; exact fun h => nomatch h

theorem verify_mismatch_fails_its_pass {C : Type} (w : Coord.World) (R : Coord.Sem C) (E : Coord.File → C)
    (hV : Coord.VerifyWorld w R E) (f : Coord.File) (hm : E f ≠ R.render f E) : w.result (.pp f false) = .err :=
  Coord.result_failFinal ((hV.failFinal f).2 hm)

example : verifyStream [1, 2, 3] [[1], [2, 3]] = true := by decide
example : verifyStream [1, 2, 3] [[1], [2]] = false := by decide
example : verifyStream [1, 2] [[1], [2, 3]] = false := by decide

/-- what a pass computes is the same function in verify and in build mode; only the sink differs -/
theorem verify_computes_what_build_computes {W : Type} (Wd : World W) (le : List Char) (first trailing : Bool) (w : W)
    (lines : List (List Char)) (readOk : Bool) :
    ppPass Wd .verify le first trailing w lines readOk = ppPass Wd .build le first trailing w lines readOk :=
  ppPass_mode Wd _ _ (by decide) (by decide) le first trailing w lines readOk

/-- **Verify passes exactly when the output is up to date (one source, concrete preprocessor).**
A verify pass over `src` ends `ok` if and only if a build pass over the same tree, with the same
options, ends `ok` and leaves at the output path exactly the bytes that are already there - so any
difference (one byte, a truncation, an extension, a missing file) fails it. Side conditions: the
output path is not a directory, is not also a temp target of the source, and the source does not read
its own output while it is rebuilt. -/
theorem verify_pass_ok_iff_output_up_to_date (cfg : Cfg) (hb : cfg.mode = .build) (a : FS) (src : Path) (first : Bool)
    (content : ByteArray) (o : Path) (bs : List (Refine.Block Directive))
    (hfile : a.file? src = some content) (hout : outputPath src = some o) (hnd : a.isDir o = false)
    (hbs : srcBlocks .build (decodeLines (byteLines content.toList)).1 = some bs)
    (hsafe : Safe cfg a src.dropLast bs [o]) (hprobes : ProbesOK cfg a src.dropLast [o] bs)
    (hnot : ∀ d e, Refine.Block.dir d e ∈ bs → dirWrites cfg a src.dropLast d ≠ some o) :
    (runPass cfg.toVerify a src first).1 = .ok ↔
      ((runPass cfg a src first).1 = .ok ∧ (runPass cfg a src first).2.file? o = a.file? o) :=
  verify_pass_iff cfg hb a src first content o bs hfile hout hnd hbs hsafe hprobes hnot

/-- the side conditions are executable (`srcSafeB`): where the check answers `true`, verify passes
exactly when the output is up to date -/
theorem verify_pass_ok_iff_output_up_to_date_where_checked (cfg : Cfg) (hb : cfg.mode = .build) (a : FS) (src : Path) (first : Bool)
    (hs : srcSafeB cfg a src = some true) :
    ∃ o, outputPath src = some o ∧
      ((runPass cfg.toVerify a src first).1 = .ok ↔
        ((runPass cfg a src first).1 = .ok ∧ (runPass cfg a src first).2.file? o = a.file? o)) :=
  verify_iff_where_checked cfg hb a src first hs

/-- entry layer: `txtpp verify …` runs in verify mode with the flags written behind `verify`; what
stands in front of the sub-command (`-N`, `-n`, …) has no effect -/
theorem cli_verify_maps_to_verify_mode (p : CliParsed) (f : CliFlags) (b : CliBuildFlags) (h : p.sub = some (.verify f b)) :
    p.config.mode = .verify ∧ p.config.recursive = f.recursive ∧ p.config.inputs = f.inputs ∧
    p.config.trailingNewline = !b.noTrailingNewline ∧ p.config.shellCmd = b.shell ∧
    ∀ fl bl n, ({ p with flags := fl, build := bl, needed := n } : CliParsed).config = p.config :=
  let ⟨h1, h2, h3, h4, h5⟩ := verify_mode p f b h
  ⟨h1, h2, h3, h4, h5, fun fl bl n => sub_ignores_top_level p _ h fl bl n⟩

/-- **whole project, concrete model of `Txtpp::run` (soundness of verify).** If the verify run of a tree
succeeds then the only-if-needed run of the same tree succeeds too and leaves the same bytes at every
path: it found every output already equal to what it computed. The verify run and the only-if-needed
run are in lockstep from identical trees, so no condition on what the sources read is needed; the
executable side condition `trVerify` only asks that no output path is a directory. -/
theorem verify_ok_means_nothing_to_rebuild (cfg : Cfg) (fs : FS) (inputs : List Str) (Sfin : List Path)
    (hst : projStale cfg.toNeeded trVerify fs inputs [] = some Sfin)
    (hok : (runProject cfg.toVerify fs inputs).1 = .ok) :
    (runProject cfg.toNeeded fs inputs).1 = .ok ∧
    ∀ q, (runProject cfg.toNeeded fs inputs).2.file? q = (runProject cfg.toVerify fs inputs).2.file? q := by
  rw [runProject_eq cfg.toNeeded fs, runProject_eq cfg.toVerify fs, projStart_cfg_congr cfg.toNeeded cfg.toVerify rfl rfl] at *
  unfold projStale at hst
  cases hs : projStart cfg.toNeeded fs inputs with
  | none => rw [hs] at hok; cases hok
  | some s =>
    rw [hs] at hst hok
    -- nothing is ever stale between these two runs: the relation carried along is "the stale set is empty and the trees agree"
    rcases runLoop_lockstep (fun S a b => S = [] ∧ Agree S a b) True cfg.toNeeded cfg.toVerify trVerify
      (fun a b S S' src first hag h => (trVerify_sound cfg a b S S' src first hag.2 h).imp (⟨trivial, ·⟩)
        (fun h' => ⟨h'.1, trVerify_nil a S S' src first _ h, h'.2⟩))
      (projFuel fs) s s [] Sfin rfl rfl ⟨rfl, Agree.refl _ _⟩ hst with ⟨_, herr⟩ | ⟨hv, rfl, hag⟩
    · rw [herr] at hok; cases hok
    · exact ⟨hv.trans hok, fun q => hag.nil q⟩

/-- … and (with the whole-project theorem of C09) a normal build of that tree succeeds and leaves exactly
the bytes of the verified tree: every output was byte-identical to what a build produces -/
theorem verify_ok_means_build_reproduces_the_tree (cfg : Cfg) (hb : cfg.mode = .build) (fs : FS) (inputs : List Str) (Sv : List Path)
    (hstV : projStale cfg.toNeeded trVerify fs inputs [] = some Sv)
    (hstN : projStale cfg (trNeeded cfg) fs inputs [] = some [])
    (hok : (runProject cfg.toVerify fs inputs).1 = .ok) :
    (runProject cfg fs inputs).1 = .ok ∧
    ∀ q, (runProject cfg fs inputs).2.file? q = (runProject cfg.toVerify fs inputs).2.file? q := by
  obtain ⟨h1, h2⟩ := verify_ok_means_nothing_to_rebuild cfg fs inputs Sv hstV hok
  obtain ⟨h3, h4⟩ := needed_project_vs_build_project cfg hb fs inputs [] hstN
  exact ⟨h3.trans h1, fun q => (h4.nil q).trans (h2 q)⟩

/-- the pass-level step of that lockstep: from trees holding the same files, the verify pass fails or
both passes have the same outcome and leave the same files -/
theorem verify_pass_fails_or_matches_needed_pass (cfg : Cfg) (a b : FS) (src : Path) (first : Bool) (hag : Agree [] a b)
    (hnd : ∀ o, outputPath src = some o → a.isDir o = false) :
    (runPass cfg.toVerify b src first).1 = .err ∨
    ((runPass cfg.toNeeded a src first).1 = (runPass cfg.toVerify b src first).1 ∧
     Agree [] (runPass cfg.toNeeded a src first).2 (runPass cfg.toVerify b src first).2) :=
  needed_vs_verify_pass cfg a b src first hag hnd

end C06
