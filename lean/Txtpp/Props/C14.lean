import Txtpp.Lemmas.TagInject
import Txtpp.Lemmas.InjectSpec
import Txtpp.Lemmas.PassInv
/-!
# Property C14 — tags: stored once, substituted once, leftmost-first, never re-expanded

`Txt.TagState` with `create` / `tryStore` / `injectLE` is the executable model of
`core/util/tag_state.rs` (tied to the code by correspondence M3, in process, bounded-exhaustive,
every case repeated with fresh hash seeds). The `HashMap` is modelled by an association list in
*arbitrary* order; `inject_order_irrelevant` is the theorem that the order does not matter.
-/
namespace C14
open Txt

/-- Creating a tag fails exactly when another tag is still waiting for its content, or the new
name equals, prefixes or is prefixed by the name of a stored tag. -/
theorem create_fails_iff (t : TagState) (tag : Str) :
    t.create tag = none ↔ (t.listening.isSome ∨ ∃ kv ∈ t.stored, kv.1 <+: tag ∨ tag <+: kv.1) :=
  create_err_iff t tag

/-- a successful create only sets the waiting tag -/
theorem create_ok (t t' : TagState) (tag : Str) (h : t.create tag = some t') :
    t' = { t with listening := some tag } :=
  (create_some_iff.1 h).2.2

/-- content is captured only by a waiting tag, which then stops waiting ("stored once") -/
theorem store_iff (t : TagState) (c : Str) :
    (t.tryStore c).isSome ↔ t.listening.isSome := by
  unfold TagState.tryStore; cases t.listening <;> simp

theorem store_ok (t t' : TagState) (c : Str) (h : t.tryStore c = some t') :
    t'.listening = none ∧ ∃ tag, t.listening = some tag ∧ (tag, c) ∈ t'.stored := by
  obtain ⟨tag, htag, rfl⟩ := tryStore_some_iff.1 h
  exact ⟨rfl, tag, htag, List.mem_cons_self⟩

/-- operations of the tag store as the preprocessor issues them -/
inductive Op where
  | create (name : Str) | store (content : Str) | inject (le line : Str)

/-- an operation that fails leaves the store as it is (in txtpp it ends the pass): "reachable" below means closed under
    the operations that succeed -/
def step (t : TagState) : Op → TagState
  | .create n => (t.create n).getD t
  | .store c => (t.tryStore c).getD t
  | .inject le l => (t.injectLE le l).2

theorem inject_inv (t : TagState) (norm : Str → Str) (line : Str) (h : TagInv t) : TagInv (t.inject norm line).2 := by
  obtain ⟨h1, h2⟩ := h
  refine ⟨h1.sublist List.filter_sublist, ?_⟩
  intro tag htag kv hkv
  exact h2 tag htag kv (List.mem_filter.1 hkv).1

/-- In every reachable state of the tag store the stored names are pairwise unrelated by prefix
(in particular distinct) and unrelated to the waiting name — so no two stored names can have
their first occurrence at the same position of a line. -/
theorem reachable_prefixFree (ops : List Op) : TagInv (ops.foldl step TagState.empty) := by
  suffices ∀ t, TagInv t → TagInv (ops.foldl step t) from this _ ⟨List.Pairwise.nil, nofun⟩
  induction ops with
  | nil => exact fun t h => h
  | cons op ops ih =>
    refine fun t h => ih _ ?_
    cases op with
    | create n =>
      show TagInv ((t.create n).getD t)
      cases hc : t.create n with
      | none => exact h
      | some t' => exact create_inv t t' n h hc
    | store c =>
      show TagInv ((t.tryStore c).getD t)
      cases hc : t.tryStore c with
      | none => exact h
      | some t' => exact tryStore_inv t t' c h hc
    | inject le l => exact inject_inv t _ l h

/-- "The result is identical on every run": under the reachable invariant the substituted line
and the set of remaining tags do not depend on the iteration order of the map. -/
theorem inject_order_irrelevant (l : Option Str) (s1 s2 : List (Str × Str)) (le line : Str)
    (hp : s1.Perm s2) (hpf : PrefixFree s1) :
    ((TagState.mk l s1).injectLE le line).1 = ((TagState.mk l s2).injectLE le line).1 ∧
    ((TagState.mk l s1).injectLE le line).2.stored.Perm ((TagState.mk l s2).injectLE le line).2.stored :=
  inject_perm l s1 s2 (replaceLE le) line hp hpf

/-- substitution never adds tags and never touches the waiting tag -/
theorem inject_only_removes (t : TagState) (le line : Str) :
    (t.injectLE le line).2.listening = t.listening ∧ (t.injectLE le line).2.stored.Sublist t.stored :=
  ⟨rfl, List.filter_sublist⟩

/-- `inject_tags`, declaratively. With `ms` the matches (first occurrence of every stored name that
occurs in the line) sorted by position and `sel` the greedy left-to-right selection:
the result is the line with exactly the selected occurrences replaced by their line-ending-
normalised values (no indentation added, values not scanned again); exactly the selected names
are deleted; every selected occurrence is the *first* occurrence of a stored name; selected
occurrences are increasing and do not overlap; and every occurrence that is not selected starts
inside an earlier selected one (it is overlapped by an earlier substitution and left alone). -/
theorem inject_spec (t : TagState) (le line : Str) :
    let ms := sortM (matchesOf t.stored line)
    let sel := select ms 0
    (t.injectLE le line).1 = substOut (replaceLE le) line sel 0 ∧
    (t.injectLE le line).2.stored = t.stored.filter (fun kv => !(sel.map (·.2.1)).contains kv.1) ∧
    (t.injectLE le line).2.listening = t.listening ∧
    (∀ m ∈ sel, (m.2.1, m.2.2) ∈ t.stored ∧ m.2.1 <+: line.drop m.1 ∧ ∀ j, j < m.1 → ¬ m.2.1 <+: line.drop j) ∧
    sel.Pairwise (fun a b => a.1 + a.2.1.length ≤ b.1) ∧
    (∀ m ∈ ms, m ∉ sel → ∃ s ∈ sel, s.1 ≤ m.1 ∧ m.1 < s.1 + s.2.1.length) :=
  Txt.inject_spec t (replaceLE le) line

/-- a waiting tag captures the output of the next output-producing directive: the raw output goes
to the tag and nothing is written -/
theorem capture_next_output {W : Type} (le : Str) (s : PpState W) (ws raw tag : Str) (h : s.tags.listening = some tag) :
    (routeOutput le s ws raw).2 = none ∧ (routeOutput le s ws raw).1.tags.listening = none ∧
    (tag, raw) ∈ (routeOutput le s ws raw).1.tags.stored := by
  simp [routeOutput, TagState.tryStore, h]

/-- with no tag waiting the output is written (formatted), the tag store is unchanged -/
theorem no_capture_without_tag {W : Type} (le : Str) (s : PpState W) (ws raw : Str) (h : s.tags.listening = none) :
    routeOutput le s ws raw = (s, some (formatOutput le ws raw)) := by
  simp [routeOutput, TagState.tryStore, h]

/-- reaching the end of the file with a tag waiting or stored is an error (outside clean mode) -/
theorem eof_unused_is_error {W : Type} (Wd : World W) (mode : Mode) (hm : mode ≠ .clean) (le : Str) (first trailing : Bool)
    (w : W) (lines : List Str) (out : Str) (w' : W)
    (h : ppPass Wd mode le first trailing w lines true = .ok out w') :
    ∃ s, Refine.machine (txtppSem Wd mode le) trailing ⟨TagState.empty, if first then .firstExec else .exec, w⟩ lines = some (s, out) ∧
      s.tags.hasTags = false := by
  obtain ⟨s, hs, _, ht, _⟩ := ppPass_ok_inv h
  refine ⟨s, hs, ?_⟩
  cases hh : s.tags.hasTags with
  | false => rfl
  | true => rw [hh, Bool.true_and, bne_eq_false_iff_eq] at ht; exact absurd ht hm

/-! Non-vacuity / worked examples (kernel evaluation) -/
example : ((TagState.mk none [(['a'], ['X']), (['b'], ['p', '\n', 'q'])]).injectLE ['\r', '\n'] ['a', 'a', 'b', '-']).1
    = ['X', 'a', 'p', '\r', '\n', 'q', '-'] := by decide +kernel
example : ((TagState.mk none [(['a', 'b'], ['a'])]).injectLE ['\n'] ['a', 'b', 'a', 'b']).1 = ['a', 'a', 'b'] := by decide +kernel
example : (TagState.mk none [(['a', 'b'], ['X'])]).create ['a'] = none := by decide +kernel
example : PrefixFree [(['a'], ['X']), (['b'], ['Y'])] := by unfold PrefixFree; decide +kernel

/-- **the tag name is the whole first argument of the directive** (the trimmed rest of the line: inner blanks,
comment closers and all - C15 says what that argument is): an executed `tag` directive succeeds exactly when
`create` accepts that argument, produces no output, and then waits under exactly that name -/
theorem tag_name_is_the_whole_argument {W : Type} (Wd : World W) (mode : Mode) (le : Str) (s : PpState W) (d : Directive)
    (hm : mode ≠ .clean) (hty : d.ty = .tag) (hpm : s.pm = .exec) :
    (execDirective Wd mode le s d = none ↔ s.tags.create (d.args.headD []) = none) ∧
    (∀ s' o, execDirective Wd mode le s d = some (s', o) →
      o = none ∧ s'.tags = { s.tags with listening := some (d.args.headD []) } ∧ s'.w = s.w ∧ s'.pm = s.pm) := by
  rw [execDirective_exec Wd hm le hpm, execBody, hty]
  dsimp only
  cases hc : s.tags.create (d.args.headD []) with
  | none => exact ⟨⟨fun _ => rfl, fun _ => rfl⟩, fun _ _ h => nomatch h⟩
  | some t' =>
    refine ⟨⟨fun h => (nomatch h), fun h => (nomatch h)⟩, fun s' o h => ?_⟩
    cases h
    exact ⟨rfl, create_ok _ _ _ hc, rfl, rfl⟩

end C14
