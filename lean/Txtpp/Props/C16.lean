import Txtpp.Lemmas.MachineFacts
import Txtpp.Lemmas.WriteEscape
import Txtpp.Lemmas.ByteIdentity
import Txtpp.Lemmas.RunPassFacts
/-!
# Property C16 — ordinary text passes through unchanged and write output is inert
-/
namespace C16
open Txt Refine

theorem inject_empty (le l : List Char) : TagState.empty.injectLE le l = (l, TagState.empty) := inject_empty' le l

/-- A source that contains no directive line is reproduced line for line: the lines joined by the
line ending of the source, with the final line ending set by the option — for every list of
lines, in the final (or only) pass of a build. -/
theorem no_directive_identity {W : Type} (Wd : World W) (le : List Char) (trailing : Bool) (w : W)
    (lines : List (List Char)) (h : ∀ l ∈ lines, detectFrom l = none) :
    ppPass Wd .build le false trailing w lines true =
      .ok (joinWith le lines ++ (if !lines.isEmpty && trailing then le else [])) w :=
  plain_ppPass Wd le false trailing w lines h

/-- also in a first pass (no dependency directive can occur, so it is the only pass) -/
theorem no_directive_identity_first {W : Type} (Wd : World W) (le : List Char) (trailing : Bool) (w : W)
    (lines : List (List Char)) (h : ∀ l ∈ lines, detectFrom l = none) :
    ppPass Wd .build le true trailing w lines true =
      .ok (joinWith le lines ++ (if !lines.isEmpty && trailing then le else [])) w :=
  plain_ppPass Wd le true trailing w lines h

/-- Directive output is never re-read: in the specification the chunk produced by a directive
block is exactly the formatted output of `exec`; it does not pass through `detect` or `text`
(tag substitution) again. -/
theorem directive_output_inert {D σ : Type} (S : Sem D σ) (s s' : σ) (d : D) (atEof : Bool) (c : List Char)
    (bs : List (Block D)) (h : S.exec s d = some (s', some c)) :
    eval S s (.dir d atEof :: bs) = (eval S s' bs).map (fun r => (r.1, ⟨c, atEof⟩ :: r.2)) := by
  rw [eval_dir, h]; rfl

/-- Any sequence of lines (no leading blank on the first, no trailing blanks, no line terminators
inside) is reproduced exactly by escaping it with `write`: the source `-TXTPP#write L0`, `-L1`, …
yields the lines joined by the source's line ending, plus the final one iff the option is on —
whatever directive lines, look-alikes or tag names the text contains (it is never re-read as a
directive and never subject to tag substitution). -/
theorem write_escape_roundtrip {W : Type} (Wd : World W) (le : List Char) (trailing : Bool) (w : W)
    (L0 : List Char) (Ls : List (List Char))
    (h0 : trim L0 = L0) (hLs : ∀ l ∈ Ls, trimEnd l = l) (hclean : ∀ l ∈ L0 :: Ls, Clean l) :
    ppPass Wd .build le false trailing w (escapeLines L0 Ls) true =
      .ok (joinWith le (L0 :: Ls) ++ (if trailing then le else [])) w :=
  Txt.write_escape_roundtrip Wd le trailing w L0 Ls h0 hLs hclean

example : detectFrom ['T', 'X', 'T', 'P', 'P', '#', 'r', 'u', 'n', 'x'] = none := by decide +kernel
-- the hypotheses are satisfiable by a text that itself is a directive line
example : trim ['-', 'T', 'X', 'T', 'P', 'P', '#', 'r', 'u', 'n', ' ', 'x'] = ['-', 'T', 'X', 'T', 'P', 'P', '#', 'r', 'u', 'n', ' ', 'x'] := by decide +kernel

/-- **Byte for byte.** A source that consists of plain lines (no directive line; no CR / LF inside a
line), each terminated by the same line ending (LF or CRLF) - in UTF-8, any characters - is
reproduced exactly: after a build pass with the trailing newline on, the output file holds the very
bytes of the source. (Bytes in, bytes out: `BufRead::lines`, the UTF-8 decoding, the line loop, the
line-ending sniffing and the encoding of the output are all inside the statement.) -/
theorem plain_source_reproduced_byte_for_byte (cfg : Cfg) (hb : cfg.mode = .build) (ht : cfg.trailing = true) (fs : FS)
    (src o : Path) (first : Bool) (crlf : Bool) (lines : List (List Char)) (hne : lines ≠ [])
    (hclean : ∀ l ∈ lines, Clean l) (hplain : ∀ l ∈ lines, detectFrom l = none)
    (hfile : fs.file? src = some (ByteArray.mk (srcBytes crlf lines).toArray)) (hout : outputPath src = some o)
    (hdir : fs.isDir o = false) :
    (runPass cfg fs src first).1 = .ok ∧
    (runPass cfg fs src first).2.file? o = some (ByteArray.mk (srcBytes crlf lines).toArray) := by
  obtain ⟨l, ls, rfl⟩ := List.exists_cons_of_ne_nil hne
  rw [runPass_eq cfg fs src first _ o hfile hout, runPassAt_eq, sinkStart_build_eq hb hdir]
  dsimp only [srcPass]
  rw [ByteArray.toList_eq, hb, ht, sniffLE_src crlf l ls (hclean l List.mem_cons_self), byteLines_src crlf _ hclean, decodeLines_src,
    plain_ppPass _ _ first true _ _ hplain]
  refine ⟨rfl, ?_⟩
  simp only [closePass, sinkEnd, List.isEmpty_cons, Bool.not_false, Bool.and_self, if_true]
  rw [file?_write_same, ← encode_joined crlf (l :: ls) (List.cons_ne_nil _ _), mk_lineBytes]

/-- the byte-level reading of a source: lines each followed by the same ending come back as those lines -/
theorem source_bytes_read_back (crlf : Bool) (lines : List (List Char)) (hc : ∀ l ∈ lines, Clean l) :
    decodeLines (byteLines (srcBytes crlf lines)) = (lines, true) := by
  rw [byteLines_src crlf lines hc, decodeLines_src]

/-- UTF-8: a byte 10 / 13 in the encoding of a character is that character being LF / CR (multi-byte
sequences never contain them) -/
theorem utf8_newline_bytes_are_newlines (c : Char) (b : UInt8) (hb : b ∈ String.utf8EncodeChar c) :
    (b = 10 → c = '\n') ∧ (b = 13 → c = '\r') := encodeChar_nl c b hb

end C16
