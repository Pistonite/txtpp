import Txtpp.Lemmas.ScanSpec
import Txtpp.Lemmas.Hermetic
import Txtpp.Lemmas.RunPassRel
import Txtpp.Lemmas.ProjectRel
/-!
# Property C08 — builds are a function of the sources only (hermetic, idempotent)
-/
namespace C08
open Txt

/-- opening the output in build mode forgets whatever was there (stale text, truncated content,
arbitrary bytes, nothing): the file is empty afterwards and nothing else changed -/
theorem build_open_forgets (fs fs1 : FS) (o : Path) (h : sinkStart .build fs o = some fs1) :
    fs1.file? o = some ByteArray.empty ∧ ∀ q, q ≠ o → fs1.file? q = fs.file? q := sinkStart_build fs fs1 o h

/-- … and for two pre-states that differ only at the output path the states after opening agree
on every path -/
theorem build_open_hermetic (fs fs' fs1 fs1' : FS) (o : Path) (hagree : ∀ q, q ≠ o → fs.file? q = fs'.file? q)
    (h : sinkStart .build fs o = some fs1) (h' : sinkStart .build fs' o = some fs1') (q : Path) :
    fs1.file? q = fs1'.file? q := by
  obtain ⟨a1, a2⟩ := sinkStart_build fs fs1 o h
  obtain ⟨b1, b2⟩ := sinkStart_build fs' fs1' o h'
  by_cases hq : q = o
  · subst hq; rw [a1, b1]
  · rw [a2 q hq, b2 q hq]; exact hagree q hq

/-- a successful build pass ends with exactly the fresh output in the file -/
theorem build_done_writes (fs2 : FS) (o : Path) (new : ByteArray) :
    (sinkEnd .build fs2 o new).1 = .ok ∧ (sinkEnd .build fs2 o new).2.file? o = some new := by
  rw [sinkEnd_build]; exact ⟨rfl, file?_write_same ..⟩

/-- the temp rule is hermetic: after a successful `write_temp_file` the target holds exactly the
new content, whatever it held before -/
theorem temp_overwrites (cfg : Cfg) (wd : Path) (src : List Char) (fs fs' : FS) (t c : List Char)
    (h : (fileWorld cfg wd src).writeTemp fs t c = some fs') :
    ∃ p, fs.resolve cfg wd t = some p ∧ fs'.file? p = some (encodeUtf8 c) := writeTemp_result cfg wd src fs fs' t c h

/-- building again over an up-to-date temp file changes nothing (idempotence of the temp rule) -/
theorem temp_idempotent (cfg : Cfg) (wd : Path) (src : List Char) (fs : FS) (t c : List Char) (p : Path)
    (hp : fs.resolve cfg wd t = some p) (hnd : fs.isDir p = false) (h : fs.file? p = some (encodeUtf8 c)) :
    (fileWorld cfg wd src).writeTemp fs t c = some fs := writeTemp_same cfg wd src fs t c p hp hnd h

/-- Project level, for every dependency graph and whatever a pass computes (`render`, local in its
dependencies): two successful runs over the same sources and inputs — started from *different*
contents of the generated files (`out0`, `out0'`: stale, truncated, arbitrary, absent), under
different schedules and thread counts — finish exactly the same set of files and leave every
output with the same value. The result depends on the sources only. -/
theorem builds_are_a_function_of_sources {C : Type} (w : Coord.World) (R : Coord.Sem C) (hR : Coord.RenderLocal w R)
    (inputs : List Coord.File) (out0 out0' : Coord.File → Coord.OutState C) (x x' : Coord.WSt C)
    (h : Coord.WReach w R inputs out0 x) (h' : Coord.WReach w R inputs out0' x')
    (hq : x.st.pool = []) (hno : ¬ Coord.Leftover x.st) (hq' : x'.st.pool = []) (hno' : ¬ Coord.Leftover x'.st) :
    (∀ f, f ∈ x.st.dm.fin ↔ f ∈ x'.st.dm.fin) ∧ ∀ f ∈ x.st.dm.fin, x.outp f = x'.outp f :=
  Coord.hermetic w R hR inputs out0 out0' x x' h h' hq hno hq' hno'

/-- **One pass is a function of the sources** (the instantiation of `render` for the concrete
preprocessor). Run a build / only-if-needed pass over `src` from two file systems that agree
outside a set `S` of stale paths (whatever earlier or interrupted runs left there: other bytes, a
prefix, nothing). If the source is not stale, no block reads a path while it is still stale
(`Safe`: an `include`/`cat` of a temp file *after* the `temp` block that writes it is fine) and no
dependency lookup probes a stale path, then the verdicts are equal and the resulting file systems
agree outside `S`; after an `ok` pass they also agree at the output and at every temp target written. -/
theorem pass_is_a_function_of_sources (cfg : Cfg) (hm : cfg.mode = .build ∨ cfg.mode = .inMemory) (a b : FS) (S : List Path)
    (src : Path) (first : Bool) (hag : Agree S a b) (hsrc : src ∉ S)
    (hsafe : ∀ content o bs, a.file? src = some content → outputPath src = some o →
      srcBlocks cfg.mode (decodeLines (byteLines content.toList)).1 = some bs →
      Safe cfg a src.dropLast bs (staleOpen cfg.mode S o) ∧ ProbesOK cfg a src.dropLast (staleOpen cfg.mode S o) bs) :
    (runPass cfg a src first).1 = (runPass cfg b src first).1 ∧
    Agree S (runPass cfg a src first).2 (runPass cfg b src first).2 ∧
    ((runPass cfg a src first).1 = .ok → ∀ content o bs, a.file? src = some content → outputPath src = some o →
      srcBlocks cfg.mode (decodeLines (byteLines content.toList)).1 = some bs →
      Agree ((staleAfter cfg a src.dropLast bs (staleOpen cfg.mode S o)).filter (· != o))
        (runPass cfg a src first).2 (runPass cfg b src first).2) :=
  runPass_rel cfg hm a b S src first hag hsrc hsafe

/-- **Leftovers at generated paths are irrelevant.** If the two pre-states differ only at paths this
pass generates itself (its output, its temp targets), then the verdicts are equal and after an `ok`
pass every path holds the same bytes in both. -/
theorem leftovers_at_generated_paths_irrelevant (cfg : Cfg) (hm : cfg.mode = .build ∨ cfg.mode = .inMemory) (a b : FS) (S : List Path)
    (src : Path) (first : Bool) (content : ByteArray) (o : Path) (bs : List (Refine.Block Directive))
    (hfile : a.file? src = some content) (hout : outputPath src = some o)
    (hbs : srcBlocks cfg.mode (decodeLines (byteLines content.toList)).1 = some bs)
    (hag : Agree S a b) (hsrc : src ∉ S) (hgen : ∀ p ∈ S, p ∈ generated cfg a src.dropLast o bs)
    (hsafe : Safe cfg a src.dropLast bs (staleOpen cfg.mode S o)) (hprobes : ProbesOK cfg a src.dropLast (staleOpen cfg.mode S o) bs) :
    (runPass cfg a src first).1 = (runPass cfg b src first).1 ∧
    ((runPass cfg a src first).1 = .ok → ∀ q, (runPass cfg a src first).2.file? q = (runPass cfg b src first).2.file? q) :=
  runPass_leftovers_irrelevant cfg hm a b S src first content o bs hfile hout hbs hag hsrc hgen hsafe hprobes

/-- **Building twice equals building once (one source).** -/
theorem build_twice_eq_once (cfg : Cfg) (hm : cfg.mode = .build ∨ cfg.mode = .inMemory) (a a' : FS) (src : Path) (first : Bool)
    (content : ByteArray) (o : Path) (bs : List (Refine.Block Directive))
    (hfile : a.file? src = some content) (hout : outputPath src = some o)
    (hbs : srcBlocks cfg.mode (decodeLines (byteLines content.toList)).1 = some bs)
    (hsrc : src ∉ generated cfg a src.dropLast o bs)
    (hsafe : Safe cfg a src.dropLast bs (staleOpen cfg.mode (generated cfg a src.dropLast o bs) o))
    (hprobes : ProbesOK cfg a src.dropLast (staleOpen cfg.mode (generated cfg a src.dropLast o bs) o) bs)
    (h1 : runPass cfg a src first = (.ok, a')) :
    (runPass cfg a' src first).1 = .ok ∧ ∀ q, (runPass cfg a' src first).2.file? q = a'.file? q :=
  runPass_idempotent cfg hm a a' src first content o bs hfile hout hbs hsrc hsafe hprobes h1

/-- The side condition is executable: `srcSafeB` (computed by the model driver for every source of
every generated tree of the C08 job, counts in the evidence) decides it, and where it answers `true`
building twice equals building once with no further hypothesis. -/
theorem build_twice_eq_once_where_checked (cfg : Cfg) (hm : cfg.mode = .build ∨ cfg.mode = .inMemory) (a a' : FS) (src : Path)
    (first : Bool) (hs : srcSafeB cfg a src = some true) (h1 : runPass cfg a src first = (.ok, a')) :
    (runPass cfg a' src first).1 = .ok ∧ ∀ q, (runPass cfg a' src first).2.file? q = a'.file? q :=
  idempotent_where_checked cfg hm a a' src first hs h1

/-- … and leftovers at the generated paths are irrelevant there -/
theorem leftovers_irrelevant_where_checked (cfg : Cfg) (hm : cfg.mode = .build ∨ cfg.mode = .inMemory) (a b : FS) (src : Path)
    (first : Bool) (hs : srcSafeB cfg a src = some true)
    (hag : ∀ content o bs, a.file? src = some content → outputPath src = some o →
      srcBlocks cfg.mode (decodeLines (byteLines content.toList)).1 = some bs → Agree (generated cfg a src.dropLast o bs) a b) :
    (runPass cfg a src first).1 = (runPass cfg b src first).1 ∧
    ((runPass cfg a src first).1 = .ok → ∀ q, (runPass cfg a src first).2.file? q = (runPass cfg b src first).2.file? q) :=
  leftovers_where_checked cfg hm a b src first hs hag

/-- what is still stale after the blocks of a source are exactly the stale paths no temp block wrote -/
theorem stale_after_characterised (cfg : Cfg) (fs0 : FS) (wd : Path) (q : Path) (bs : List (Refine.Block Directive)) (S : List Path) :
    q ∈ staleAfter cfg fs0 wd bs S ↔ q ∈ S ∧ ∀ d e, Refine.Block.dir d e ∈ bs → dirWrites cfg fs0 wd d ≠ some q :=
  mem_staleAfter cfg fs0 wd q bs S

/-- the side condition is the honest one: a source that reads a stale path it has not rewritten is
outside `Safe` (here: an `include` of a stale path) -/
example (cfg : Cfg) (fs0 : FS) (p : Path) (h : fs0.resolve cfg [] ['x'] = some p) :
    ¬ Safe cfg fs0 [] [Refine.Block.dir ⟨[], [], .include, [['x']]⟩ false] [p] := by
  intro hs
  have := hs.1 p (by simp [dirReads, h])
  simp at this

/-- … while writing it first makes the later read safe -/
example (cfg : Cfg) (fs0 : FS) (p : Path) (h : fs0.resolve cfg [] ['x'] = some p) (hx : isTxtppPath ['x'] = false) :
    Safe cfg fs0 [] [Refine.Block.dir ⟨[], ['-'], .temp, [['x'], ['b']]⟩ false, Refine.Block.dir ⟨[], [], .include, [['x']]⟩ true] [p] := by
  refine ⟨by simp [dirReads], ?_, trivial⟩
  intro q hq
  simp [dirReads, h] at hq
  subst hq
  simp [staleAfterDir, dirWrites, hx, h]

/-- **whole project: leftovers are irrelevant.** Two trees that differ only inside `S` (what earlier or
interrupted runs left behind: stale text, truncated files, arbitrary bytes, nothing) and hold the same
sources give the same verdict under the whole run `Txtpp::run` (input resolution, directory scans,
coordinator, every pass of every file, dependencies included), and afterwards differ at most inside the
stale set `projStale` carries along the run of the first tree — the executable side condition: at every
pass, no executed block reads a path that is still stale; a first pass owes nothing for the dependency
directive it stops at. -/
theorem whole_project_leftovers_irrelevant (cfg : Cfg) (hm : cfg.mode = .build ∨ cfg.mode = .inMemory) (a b : FS)
    (inputs : List Str) (S Sfin : List Path) (hag : Agree S a b) (hsrcs : srcPaths a = srcPaths b)
    (hres : resolveInputs cfg a inputs = resolveInputs cfg b inputs)
    (hst : projStale cfg (trSame cfg) a inputs S = some Sfin)
    (hfa : (runProject cfg a inputs).1 ≠ .outOfFuel) (hfb : (runProject cfg b inputs).1 ≠ .outOfFuel) :
    (runProject cfg a inputs).1 = (runProject cfg b inputs).1 ∧
    Agree Sfin (runProject cfg a inputs).2 (runProject cfg b inputs).2 :=
  project_runs_agree cfg hm a b inputs S Sfin hag hres (scanAll_congr a b cfg.recursive hag.1 hsrcs) hst hfa hfb

/-- … in particular, when nothing is stale at the end (`projStale … = some []`: every stale path was
regenerated by a pass that ended `ok`), the two runs leave the same bytes at *every* path -/
theorem whole_project_same_result (cfg : Cfg) (hm : cfg.mode = .build ∨ cfg.mode = .inMemory) (a b : FS)
    (inputs : List Str) (S : List Path) (hag : Agree S a b) (hsrcs : srcPaths a = srcPaths b)
    (hres : resolveInputs cfg a inputs = resolveInputs cfg b inputs)
    (hst : projStale cfg (trSame cfg) a inputs S = some [])
    (hfa : (runProject cfg a inputs).1 ≠ .outOfFuel) (hfb : (runProject cfg b inputs).1 ≠ .outOfFuel) :
    (runProject cfg a inputs).1 = (runProject cfg b inputs).1 ∧
    ∀ q, (runProject cfg a inputs).2.file? q = (runProject cfg b inputs).2.file? q := by
  have h := whole_project_leftovers_irrelevant cfg hm a b inputs S [] hag hsrcs hres hst hfa hfb
  exact ⟨h.1, fun q => h.2.nil q⟩

/-- **whole project: building twice equals building once.** `a'` is the tree a successful run leaves;
`S` covers what that run changed. A second run from `a'` succeeds and leaves every path as it was. -/
theorem whole_project_build_twice_eq_once (cfg : Cfg) (hm : cfg.mode = .build ∨ cfg.mode = .inMemory) (a a' : FS)
    (inputs : List Str) (S : List Path) (h1 : runProject cfg a inputs = (.ok, a')) (hag : Agree S a a')
    (hsrcs : srcPaths a = srcPaths a') (hres : resolveInputs cfg a inputs = resolveInputs cfg a' inputs)
    (hst : projStale cfg (trSame cfg) a inputs S = some [])
    (hfb : (runProject cfg a' inputs).1 ≠ .outOfFuel) :
    (runProject cfg a' inputs).1 = .ok ∧ ∀ q, (runProject cfg a' inputs).2.file? q = a'.file? q := by
  have h := whole_project_same_result cfg hm a a' inputs S hag hsrcs hres hst (by rw [h1]; simp) hfb
  rw [h1] at h
  exact ⟨h.1.symm, fun q => (h.2 q).symm⟩

/-- the per-pass ingredient, first-pass aware: at a dependency directive a first pass owes nothing,
whatever the directive and the blocks after it read -/
theorem first_pass_owes_nothing_after_its_dependency (cfg : Cfg) (fs0 : FS) (wd : Path) (d : Directive) (e : Bool)
    (bs : List (Refine.Block Directive)) (S Sfin : List Path) (hdep : isDepB cfg fs0 wd d = true) :
    SafeTo cfg fs0 wd true (Refine.Block.dir d e :: bs) S Sfin := Or.inl ⟨rfl, hdep⟩

end C08
