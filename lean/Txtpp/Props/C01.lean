import Txtpp.Lemmas.PassInv
/-!
# Property C01 — output conforms to the documented directive semantics

`Refine.machine` is the model of `Pp::run_internal` (streaming: current directive, tail line,
pending-newline flag). `Refine.spec` = `parse → eval → render` is the README read literally:
group lines into text lines and directive blocks, evaluate the blocks left to right, splice the
chunks (a text line owes a line ending, directive output is spliced verbatim, a directive that
ends the file counts like a text line, the last owed line ending is written iff `trailing`).
`Txt.txtppSem` plugs the seven directives, tags, temp files and the first/second-pass modes into
both; `Txt.ppPass` (compared with the code by correspondence M5) is the machine plus the
end-of-file checks.
-/
namespace C01
open Txt Refine

/-- The streaming machine equals the specification, for every directive semantics `S`, every
trailing option, start state and source — including *whether* it fails. -/
theorem machine_refines_spec {D σ : Type} (S : Sem D σ) (t : Bool) (s0 : σ) (lines : List (List Char)) :
    machine S t s0 lines = spec S t s0 lines := Refine.machine_eq_spec S t s0 lines

/-- The per-file pass of txtpp in terms of the specification: `ppPass` is `spec` at the txtpp
directive semantics followed by the end-of-file checks (dependencies found → second pass needed;
tags left over → error). -/
theorem pp_refines_spec {W : Type} (Wd : World W) (mode : Mode) (le : List Char) (first trailing : Bool) (w : W)
    (lines : List (List Char)) :
    ppPass Wd mode le first trailing w lines true =
      (match spec (txtppSem Wd mode le) trailing ⟨TagState.empty, if first then .firstExec else .exec, w⟩ lines with
       | none => .err
       | some (s, out) =>
         match s.pm with
         | .collect deps => .hasDeps deps s.w
         | _ => if s.tags.hasTags && mode != .clean then .err else .ok out s.w) := by
  rw [← Refine.machine_eq_spec]
  rfl

/-- The build fails iff the semantics prescribe an error: parse error (prefix-less multi-line
directive), a failing directive (missing include, failing command, tag misuse, bad temp target),
or an unused tag at end of file. -/
theorem fails_iff {W : Type} (Wd : World W) (le : List Char) (trailing : Bool) (w : W) (lines : List (List Char)) :
    ppPass Wd .build le false trailing w lines true = .err ↔
      (parse (txtppSem Wd .build le) none lines = none ∨
       (∃ bs, parse (txtppSem Wd .build le) none lines = some bs ∧
          eval (txtppSem Wd .build le) ⟨TagState.empty, .exec, w⟩ bs = none) ∨
       (∃ bs s cs, parse (txtppSem Wd .build le) none lines = some bs ∧
          eval (txtppSem Wd .build le) ⟨TagState.empty, .exec, w⟩ bs = some (s, cs) ∧
          ((∃ deps, s.pm = .collect deps) = False) ∧ s.tags.hasTags = true)) := by
  rw [ppPass_eq, machine_eq_bind]
  cases parse (txtppSem Wd .build le) none lines with
  | none => exact ⟨fun _ => Or.inl rfl, fun _ => rfl⟩
  | some bs =>
    cases he : eval (txtppSem Wd .build le) ⟨TagState.empty, .exec, w⟩ bs with
    | none => exact ⟨fun _ => Or.inr (Or.inl ⟨bs, rfl, he⟩), fun _ => by simp [startState, he, passResult]⟩
    | some r =>
      obtain ⟨s, cs⟩ := r
      have key : passResult .build (some (s, render le trailing false cs)) = PassResult.err ↔
          ((∃ deps, s.pm = .collect deps) = False) ∧ s.tags.hasTags = true := by
        cases hpm : s.pm <;> cases ht : s.tags.hasTags <;> simp [passResult, hpm, ht]
      simp only [Option.bind_some, startState, Bool.false_eq_true, if_false, he, Option.map_some]
      rw [show (txtppSem Wd .build le).le = le from rfl, key]
      constructor
      · exact fun h => Or.inr (Or.inr ⟨bs, s, cs, rfl, he, h⟩)
      · rintro (h | ⟨_, h, h'⟩ | ⟨_, _, _, h, h', h''⟩)
        · cases h
        · cases h; rw [he] at h'; cases h'
        · cases h; rw [he] at h'; cases h'; exact h''

/-! ### reading `render`: the splice rule of the README, as equations -/

/-- an ordinary line owes a line ending: the next chunk starts on a new line -/
theorem text_line_then_chunk (le : List Char) (tr p b : Bool) (t u : List Char) (rest : List Chunk) :
    render le tr p (⟨t, true⟩ :: ⟨u, b⟩ :: rest) = (if p then le else []) ++ t ++ (le ++ u ++ render le tr b rest) := by
  simp [render]

/-- directive output is spliced verbatim: when it is followed by more input (it does not end the
file) nothing is inserted after it, so a missing final newline joins it to the following text -/
theorem directive_output_joins_next (le : List Char) (tr p b : Bool) (c u : List Char) (rest : List Chunk) :
    render le tr p (⟨c, false⟩ :: ⟨u, b⟩ :: rest) = (if p then le else []) ++ c ++ (u ++ render le tr b rest) := by
  simp [render]

/-- the last owed line ending is written iff the trailing option is on -/
theorem final_line_ending (le : List Char) (tr p : Bool) (t : List Char) :
    render le tr p [⟨t, true⟩] = (if p then le else []) ++ t ++ (if tr then le else []) := by
  simp [render]

/-- a directive's formatted output is its raw output re-split into lines, each indented by the
directive's leading whitespace, joined by the source's line ending, with a final one iff the raw
output ended in a newline -/
theorem formatted_output (le ws raw : List Char) :
    formatOutput le ws raw = joinWith le ((rustLines raw).map (ws ++ ·)) ++ (if endsNl raw then le else []) := rfl

end C01
