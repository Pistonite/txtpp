import Txtpp.Lemmas.MachineFacts
import Txtpp.Lemmas.CliFacts
import Txtpp.Lemmas.RunPassFacts
/-!
# Property C13 — the trailing-newline option controls one final line ending and nothing else
-/
namespace C13
open Txt Refine

/-- For every directive semantics and every source: the two settings fail together, end in the
same state (tags, world: temp files and executed commands) and the outputs are identical except
for at most one line ending at the very end. -/
theorem trailing_only_final {D σ : Type} (S : Sem D σ) (s0 : σ) (lines : List (List Char)) :
    (machine S true s0 lines = none ∧ machine S false s0 lines = none) ∨
    (∃ s out, machine S false s0 lines = some (s, out) ∧
      (machine S true s0 lines = some (s, out) ∨ machine S true s0 lines = some (s, out ++ S.le))) :=
  Refine.trailing_only_final S s0 lines

/-- the same for the txtpp pass in every mode and both passes: same verdict, same dependencies,
same world afterwards (the option never changes temp files), outputs equal up to one final `le` -/
theorem pass_trailing {W : Type} (Wd : World W) (mode : Mode) (le : List Char) (first : Bool) (w : W)
    (lines : List (List Char)) :
    match ppPass Wd mode le first false w lines true, ppPass Wd mode le first true w lines true with
    | .err, .err => True
    | .hasDeps d w0, .hasDeps d1 w1 => d = d1 ∧ w0 = w1
    | .ok o w0, .ok o1 w1 => w0 = w1 ∧ (o1 = o ∨ o1 = o ++ le)
    | _, _ => False := by
  obtain ⟨e, he, h⟩ := ppPass_trailing Wd mode le first w lines true
  rw [h]
  cases ppPass Wd mode le first false w lines true with
  | err => trivial
  | hasDeps d w0 => exact ⟨rfl, rfl⟩
  | ok o w0 => exact ⟨rfl, he.imp (fun h => by rw [h]; exact List.append_nil o) (fun h => by rw [h])⟩

/-- With the option on, an output whose source ends with an ordinary text line (not a directive
line, not a continuation of the block before it) ends with that line followed by a line ending;
with the option off the final line ending is absent: `out_on = out_off ++ le`, and `out_off` ends
with the line as written (after tag substitution). -/
theorem trailing_text_last {D σ : Type} (S : Sem D σ) (s0 : σ) (ls : List (List Char)) (l : List Char)
    (hd : S.detect l = none) (hcont : ∀ d, S.addLine d l = none) (htext : ∀ s, ∃ l', (S.text s l).2 = some l')
    (s : σ) (out : List Char) (h : machine S false s0 (ls ++ [l]) = some (s, out)) :
    machine S true s0 (ls ++ [l]) = some (s, out ++ S.le) ∧
    ∃ pre l', out = pre ++ l' ∧ ∃ s', (S.text s' l).2 = some l' :=
  Refine.trailing_text_last S s0 ls l hd hcont htext s out h

/-- **One `preprocess` call on the file system (build mode)**: with the option on or off the outcome
is the same, every path other than the output path holds the same bytes afterwards (temp files,
sources, everything else), and the output text with the option on is the text with the option off, or
that text followed by exactly one line ending (the source's). -/
theorem option_changes_only_the_final_line_ending_of_the_output (cfg : Cfg) (hb : cfg.mode = .build) (fs : FS) (src : Path)
    (first : Bool) :
    (runPass (cfg.withTrailing false) fs src first).1 = (runPass (cfg.withTrailing true) fs src first).1 ∧
    (∀ q, outputPath src ≠ some q →
      (runPass (cfg.withTrailing false) fs src first).2.file? q = (runPass (cfg.withTrailing true) fs src first).2.file? q) ∧
    ((runPass (cfg.withTrailing false) fs src first).1 = .ok → ∃ o out le, outputPath src = some o ∧
      (runPass (cfg.withTrailing false) fs src first).2.file? o = some (encodeUtf8 out) ∧
      ((runPass (cfg.withTrailing true) fs src first).2.file? o = some (encodeUtf8 out) ∨
       (runPass (cfg.withTrailing true) fs src first).2.file? o = some (encodeUtf8 (out ++ le)))) := by
  -- the two runs are the same up to the line loop; there `ppPass_trailing`; only an `ok` pass writes, at `o`, in both
  by_cases hn : fs.file? src = none ∨ outputPath src = none
  · rw [runPass_nosrc _ fs src first hn, runPass_nosrc _ fs src first hn]; exact ⟨rfl, fun _ _ => rfl, nofun⟩
  obtain ⟨content, hfile⟩ := Option.ne_none_iff_exists'.1 fun h => hn (Or.inl h)
  obtain ⟨o, hout⟩ := Option.ne_none_iff_exists'.1 fun h => hn (Or.inr h)
  have e : ∀ t fs1, srcPass (cfg.withTrailing t) src first content fs1 =
      ppPass (fileWorld cfg src.dropLast (joinPath src)) .build (sniffLE content.toList) first t fs1
        (decodeLines (byteLines content.toList)).1 (decodeLines (byteLines content.toList)).2 := fun t fs1 => by
    unfold srcPass; rw [fileWorld_congr cfg (cfg.withTrailing t) rfl rfl]; exact congrArg (ppPass _ · _ _ _ _ _ _) hb
  rw [runPass_eq _ fs src first content o hfile hout, runPass_eq _ fs src first content o hfile hout, runPassAt_eq, runPassAt_eq,
    show (cfg.withTrailing false).mode = .build from hb, show (cfg.withTrailing true).mode = .build from hb, hout]
  cases sinkStart .build fs o with
  | none => exact ⟨rfl, fun _ _ => rfl, nofun⟩
  | some fs1 =>
    dsimp only
    obtain ⟨e', he, h⟩ := ppPass_trailing (fileWorld cfg src.dropLast (joinPath src)) .build (sniffLE content.toList) first fs1
      (decodeLines (byteLines content.toList)).1 (decodeLines (byteLines content.toList)).2
    rw [e, e, h]
    cases ppPass (fileWorld cfg src.dropLast (joinPath src)) .build (sniffLE content.toList) first false fs1
        (decodeLines (byteLines content.toList)).1 (decodeLines (byteLines content.toList)).2 with
    | err => exact ⟨rfl, fun _ _ => rfl, nofun⟩
    | hasDeps d w' => exact ⟨rfl, fun _ _ => rfl, nofun⟩
    | ok out w' =>
      -- both passes write the output path, nothing else differs
      refine ⟨rfl, fun q hq => ?_, fun _ => ⟨o, out, sniffLE content.toList, rfl, file?_write_same .., ?_⟩⟩
      · have hqo : q ≠ o := fun e => hq (by rw [e])
        exact (file?_write_other _ o q _ hqo).trans (file?_write_other _ o q _ hqo).symm
      · rcases he with rfl | rfl
        · exact Or.inl (by rw [PassResult.mapOut, List.append_nil]; exact file?_write_same ..)
        · exact Or.inr (file?_write_same ..)

/-- entry layer: the option is `-n` and nothing else - on, unless `-n` is given to the command that
runs (build, only-if-needed build, verify); clean has no such option -/
theorem cli_trailing_option (p : CliParsed) :
    (p.sub = none → p.config.trailingNewline = !p.build.noTrailingNewline) ∧
    (∀ f b, p.sub = some (.verify f b) → p.config.trailingNewline = !b.noTrailingNewline) ∧
    (∀ f, p.sub = some (.clean f) → p.config.trailingNewline = true) := by
  refine ⟨fun h => (build_mode p h).2.2.2.1, fun f b h => (verify_mode p f b h).2.2.2.1, fun f h => ?_⟩
  simp [CliParsed.config, h, CliFlags.applyTo]

end C13
