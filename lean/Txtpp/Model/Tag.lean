import Txtpp.Model.Lines
/-! The tag store (DESIGN 4.4): model of `core/util/tag_state.rs` and `core/util/string.rs` -/
namespace Txt

/-- char index of the first occurrence of `k` in `s` -/
def findIdx (k : Str) (s : Str) : Option Nat := (findSub k s).map (fun r => r.1.length)

structure TagState where
  listening : Option Str
  stored : List (Str × Str)      -- stands for the HashMap

def related (a b : Str) : Bool := a.isPrefixOf b || b.isPrefixOf a

/-- `TagState::create` -/
def TagState.create (t : TagState) (tag : Str) : Option TagState :=
  if t.listening.isSome then none
  else if t.stored.any (fun kv => related kv.1 tag) then none
  else some { t with listening := some tag }

/-- `TagState::try_store` (`HashMap::insert` replaces an existing key) -/
def TagState.tryStore (t : TagState) (content : Str) : Option TagState :=
  match t.listening with
  | some tag => some ⟨none, (tag, content) :: t.stored.filter (fun kv => kv.1 != tag)⟩
  | none => none

def TagState.hasTags (t : TagState) : Bool := t.listening.isSome || !t.stored.isEmpty

/-- no key is a prefix of another one (in particular keys are distinct) -/
def PrefixFree (l : List (Str × Str)) : Prop := l.Pairwise (fun a b => related a.1 b.1 = false)

/-- the invariant `create`/`tryStore` maintain: stored keys are prefix-free and the listening
    tag is unrelated to every stored key -/
def TagInv (t : TagState) : Prop :=
  PrefixFree t.stored ∧ ∀ tag, t.listening = some tag → ∀ kv ∈ t.stored, related kv.1 tag = false

abbrev Match := Nat × Str × Str

def matchesOf (stored : List (Str × Str)) (line : Str) : List Match :=
  stored.filterMap (fun kv => (findIdx kv.1 line).map (fun i => (i, kv.1, kv.2)))

/-- stable insertion sort by match position (`to_inject.sort_by(|a, b| a.0.cmp(&b.0))`) -/
def insertM (a : Match) : List Match → List Match
  | [] => [a]
  | b :: bs => if a.1 ≤ b.1 then a :: b :: bs else b :: insertM a bs

def sortM (l : List Match) : List Match := l.foldr insertM []

/-- the `for (i, key, value) in &to_inject` loop of `inject_tags`; `norm` = `replace_line_ending(le, false)` -/
def injLoop (norm : Str → Str) (line : Str) : List Match → Nat → Str → List Str → Str × List Str
  | [], lastEnd, acc, rem => (acc ++ line.drop lastEnd, rem)
  | (i, k, v) :: ms, lastEnd, acc, rem =>
    if i < lastEnd then injLoop norm line ms lastEnd acc rem
    else injLoop norm line ms (i + k.length) (acc ++ (line.drop lastEnd).take (i - lastEnd) ++ norm v) (k :: rem)

def TagState.inject (t : TagState) (norm : Str → Str) (line : Str) : Str × TagState :=
  let r := injLoop norm line (sortM (matchesOf t.stored line)) 0 [] []
  (r.1, { t with stored := t.stored.filter (fun kv => !r.2.contains kv.1) })


/-- the model of `TagState::inject_tags(line, le)` -/
def TagState.injectLE (t : TagState) (le : Str) (line : Str) : Str × TagState := t.inject (replaceLE le) line

def TagState.empty : TagState := ⟨none, []⟩

end Txt
