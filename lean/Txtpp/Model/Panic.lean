import Txtpp.Model.Text
/-! Panic audit layer (DESIGN 4.8): the byte-offset-faithful rendering of slicing (`&s[a..b]` panics unless
    `a ≤ b ≤ len` and both are char boundaries). The theorems that the sites cannot fail are in `Props/C18`, the
    slicing lemmas they rest on in `Lemmas/ByteSplit`. -/
namespace Txt

/-- `s.split_at(n)` / `&s[..n]`, `&s[n..]`: defined only if byte offset `n` is a char boundary ≤ len -/
def byteSplit : Str → Nat → Option (Str × Str)
  | s, 0 => some ([], s)
  | [], _ + 1 => none
  | c :: cs, n + 1 =>
    if c.utf8Size ≤ n + 1 then
      (byteSplit cs (n + 1 - c.utf8Size)).map (fun r => (c :: r.1, r.2))
    else none

end Txt
