/-! Text primitives and the directive grammar (DESIGN 4.1): models of `directive_from.rs`,
`directive_add_line.rs`, `directive/mod.rs` -/
namespace Txt

abbrev Str := List Char

/-- Rust `char::is_whitespace` (Unicode White_Space). -/
def isWs (c : Char) : Bool :=
  let n := c.toNat
  (9 ≤ n && n ≤ 13) || n == 0x20 || n == 0x85 || n == 0xA0 || n == 0x1680 ||
  (0x2000 ≤ n && n ≤ 0x200A) || n == 0x2028 || n == 0x2029 || n == 0x202F || n == 0x205F || n == 0x3000

def hash : Str := ['T', 'X', 'T', 'P', 'P', '#']

/-- `str::find(pat)`: split at the first occurrence: (before, from the match on) -/
def findSub (pat : Str) : Str → Option (Str × Str)
  | [] => if pat.isPrefixOf [] then some ([], []) else none
  | c :: cs =>
    if pat.isPrefixOf (c :: cs) then some ([], c :: cs)
    else match findSub pat cs with
      | some (a, b) => some (c :: a, b)
      | none => none

/-- `pat` occurs in `s` at offset `i` -/
def OccursAt (pat s : Str) (i : Nat) : Prop := pat <+: s.drop i ∧ i ≤ s.length

/-- `str::split_once(' ')` -/
def splitOnceSpace : Str → Option (Str × Str)
  | [] => none
  | c :: cs => if c = ' ' then some ([], cs) else
      match splitOnceSpace cs with
      | some (a, b) => some (c :: a, b)
      | none => none

def trimStart (s : Str) : Str := s.dropWhile isWs
def trimEnd (s : Str) : Str := (s.reverse.dropWhile isWs).reverse
def trim (s : Str) : Str := trimEnd (trimStart s)

inductive DType where
  | empty | include | after | run | tag | temp | write
deriving DecidableEq, Repr

def DType.ofName (n : Str) : Option DType :=
  if n = [] then some .empty
  else if n = "include".toList then some .include
  else if n = "run".toList then some .run
  else if n = "tag".toList then some .tag
  else if n = "temp".toList then some .temp
  else if n = "write".toList then some .write
  else if n = "after".toList then some .after
  else none

def DType.multi : DType → Bool
  | .after | .include | .tag => false
  | _ => true

structure Directive where
  ws : Str
  pre : Str
  ty : DType
  args : List Str
deriving DecidableEq, Repr

/-- `Directive::detect_from` -/
def detectFrom (line : Str) : Option Directive :=
  let ws := line.takeWhile isWs
  match findSub hash (line.dropWhile isWs) with
  | none => none
  | some (pre, fromHash) =>
    let afterHash := fromHash.drop hash.length
    match splitOnceSpace afterHash with
    | some (n, a) => (DType.ofName n).map (fun ty => ⟨ws, pre, ty, [trim a]⟩)
    | none => (DType.ofName afterHash).map (fun ty => ⟨ws, pre, ty, [[]]⟩)

/-- The sentence of property C15, first half. -/
def IsDirectiveLine (line : Str) (d : Directive) : Prop :=
  ∃ rest after name,
    -- leading whitespace, maximal
    line = d.ws ++ rest ∧ (∀ c ∈ d.ws, isWs c = true) ∧ (∀ c, rest.head? = some c → isWs c = false) ∧
    -- the first `TXTPP#` of the rest, the text before it is the prefix
    rest = d.pre ++ hash ++ after ∧ (∀ j, j < d.pre.length → ¬ hash <+: rest.drop j) ∧
    -- immediately followed by a name, then end of line or a space; the trimmed rest is the argument
    ((after = name ∧ ' ' ∉ name ∧ d.args = [[]]) ∨ (∃ r, after = name ++ ' ' :: r ∧ ' ' ∉ name ∧ d.args = [trim r])) ∧
    DType.ofName name = some d.ty

/-- UTF-8 length in bytes (`str::len`) -/
def utf8Len (s : Str) : Nat := (s.map Char.utf8Size).sum

def spaces (n : Nat) : Str := List.replicate n ' '

def Directive.push (d : Directive) (a : Str) : Directive := { d with args := d.args ++ [a] }

/-- `Directive::add_line`; `none` = `Err(())` -/
def addLine (d : Directive) (line : Str) : Option Directive :=
  if !d.ty.multi then none
  else if d.ws.isPrefixOf line then
    let rest := line.drop d.ws.length
    if rest = trimEnd d.pre then some (d.push [])
    else if d.pre.isPrefixOf rest then some (d.push (trimEnd (rest.drop d.pre.length)))
    else if (spaces (utf8Len d.pre)).isPrefixOf rest then some (d.push (trimEnd (rest.drop (utf8Len d.pre))))
    else none
  else none

/-- The sentence of property C15, second half: `line` continues `d` with next argument `a`. -/
def Continues (d : Directive) (line : Str) (a : Str) : Prop :=
  ∃ rest, line = d.ws ++ rest ∧
    ((rest = trimEnd d.pre ∧ a = []) ∨
     (∃ r, rest = d.pre ++ r ∧ a = trimEnd r) ∨
     (∃ r, rest = spaces (utf8Len d.pre) ++ r ∧ a = trimEnd r))

end Txt
