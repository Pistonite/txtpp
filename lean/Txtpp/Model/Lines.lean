import Txtpp.Model.Text
/-! `str::lines`, `BufRead::lines`, `replace_line_ending`, `format_directive_output`; line-ending conformance (C12) -/
namespace Txt

/-- Rust `str::lines()` -/
def rustLines : Str → List Str
  | [] => []
  | '\n' :: cs => [] :: rustLines cs
  | '\r' :: '\n' :: cs => [] :: rustLines cs
  | c :: cs => match rustLines cs with
      | [] => [[c]]
      | l :: ls => (c :: l) :: ls


/-- `[String]::join` -/
def joinWith (sep : Str) : List Str → Str
  | [] => []
  | [l] => l
  | l :: ls => l ++ sep ++ joinWith sep ls

/-- `str::ends_with('\n')` -/
def endsNl (s : Str) : Bool := s.getLast? = some '\n'

/-- `ReplaceLineEnding::replace_line_ending(le, false)` -/
def replaceLE (le s : Str) : Str := joinWith le (rustLines s) ++ (if endsNl s then le else [])

/-- `Pp::format_directive_output(ws, raw.lines(), raw.ends_with('\n'))` -/
def formatOutput (le ws raw : Str) : Str :=
  joinWith le ((rustLines raw).map (ws ++ ·)) ++ (if endsNl raw then le else [])

/-- every `\r` is immediately followed by `\n` -/
def crDom : Str → Bool
  | [] => true
  | '\r' :: '\n' :: cs => crDom cs
  | '\r' :: _ => false
  | _ :: cs => crDom cs

def Clean (l : Str) : Prop := '\r' ∉ l ∧ '\n' ∉ l

end Txt
